import Folang.Model.Lib
import Folang.Generated.LibFacts
/-
Obligations over facts regenerated from /repo/pkg/{dict,strings,buf,frt} on every run.
-/
namespace Folang.Props.C14
open Folang.Lib

theorem armOf_ok (arms : List (List String × String)) (dflt : String)
    (harms : ∀ a ∈ arms, ∀ k ∈ a.1, accessorOK a.2 (kindClass k) = true)
    (hdflt : ∀ c, accessorOK dflt c = true) (k : String) :
    accessorOK (armOf arms dflt k) (kindClass k) = true := by
  unfold armOf
  cases h : arms.find? (fun a => a.1.contains k) with
  | none => exact hdflt _
  | some a =>
    have hk := List.find?_some h
    exact harms a (List.mem_of_find?_eq_some h) k (List.contains_iff_mem.mp hk)

/-- **toS never panics**: for every reflect kind, the accessor the (regenerated) switch arm calls
is one reflect allows on that kind.  False before fix a41e038 (`toS_unfixed_panics`). -/
theorem toS_total : ∀ k ∈ allKinds,
    accessorOK (armOf Folang.Generated.toSArms Folang.Generated.toSDefault k) (kindClass k) = true :=
  fun k _ => armOf_ok _ _ (by decide) (fun _ => rfl) k

/-- integer kinds (signed and unsigned) are rendered through an integer accessor, strings through
String: what "decimal for integers, the string itself for strings" needs -/
theorem toS_classes : ∀ k ∈ allKinds,
    (kindClass k = .int → armOf Folang.Generated.toSArms Folang.Generated.toSDefault k = "Int") ∧
    (kindClass k = .uint → armOf Folang.Generated.toSArms Folang.Generated.toSDefault k = "Uint") ∧
    (kindClass k = .string → armOf Folang.Generated.toSArms Folang.Generated.toSDefault k = "String") ∧
    (kindClass k = .other → armOf Folang.Generated.toSArms Folang.Generated.toSDefault k = "%v") := by decide

/-- (name, type parameters, parameters, results), here and in the two lists below -/
def modelledDict : List (String × Nat × Nat × Nat) := [
  ("Add", 2, 3, 0), ("ContainsKey", 2, 2, 1), ("Item", 2, 2, 1), ("KVs", 2, 1, 1), ("Keys", 2, 1, 1),
  ("New", 2, 0, 1), ("ToDict", 2, 1, 1), ("TryFind", 2, 2, 1), ("Values", 2, 1, 1)]
def modelledStrings : List (String × Nat × Nat × Nat) := [
  ("AppendHead", 0, 2, 1), ("AppendTail", 0, 2, 1), ("Concat", 0, 2, 1), ("EncloseWith", 0, 3, 1),
  ("HasPrefix", 0, 2, 1), ("HasSuffix", 0, 2, 1), ("IsEmpty", 0, 1, 1), ("IsNotEmpty", 0, 1, 1),
  ("Length", 0, 1, 1), ("Split", 0, 2, 1), ("SplitN", 0, 3, 1), ("TrimSuffix", 0, 2, 1)]
def modelledBuf : List (String × Nat × Nat × Nat) := [("New", 0, 0, 1), ("String", 0, 1, 1), ("Write", 0, 2, 0)]

theorem fact_dictFuncs : Folang.Generated.dictFuncs = modelledDict := rfl
theorem fact_stringsFuncs : Folang.Generated.stringsFuncs = modelledStrings := rfl
theorem fact_bufFuncs : Folang.Generated.bufFuncs = modelledBuf := rfl

end Folang.Props.C14
