import Folang.Model.Resolve
/-
C16 (with C02): the resolution of type variables terminates.

`resolve_terminates`: for EVERY resolver (any bindings, cyclic or not) and every type, with fuel
larger than the number of bound names, `resolveType` never runs out of fuel: it returns a type or the
diagnostic "Recursive type found" — the `visiting` list of fix 1e8a7fd bounds the depth by the number
of distinct bound type variables.  `resolve_unfixed_diverges` is the witness for the code before the
fix (no visiting check): on `a ↦ a -> b` every fuel is exhausted.
-/
namespace Folang.Props.C16
open Folang.Infer Folang.Resolve

mutual
theorem transTV_error (f : String → Except Err ITy) {e : Err} : ∀ (t : ITy), transTV f t = .error e → ∃ a, f a = .error e
  | .var a, h => ⟨a, h⟩
  | .con _ as, h => by
    unfold transTV at h
    split at h
    · cases h
    · next he =>
      cases h
      exact transTVList_error f as he
theorem transTVList_error (f : String → Except Err ITy) {e : Err} : ∀ (ts : List ITy), transTVList f ts = .error e →
    ∃ a, f a = .error e
  | [], h => nomatch h
  | t :: ts, h => by
    unfold transTVList at h
    split at h
    · next he =>
      cases h
      exact transTV_error f t he
    · split at h
      · cases h
      · next he =>
        cases h
        exact transTVList_error f ts he
end

theorem transTV_fuel (f : String → Except Err ITy) (hf : ∀ a, f a ≠ .error .outOfFuel) :
    ∀ (t : ITy), transTV f t ≠ .error .outOfFuel :=
  fun t h => (transTV_error f t h).elim hf

theorem transTVList_fuel (f : String → Except Err ITy) (hf : ∀ a, f a ≠ .error .outOfFuel) :
    ∀ (ts : List ITy), transTVList f ts ≠ .error .outOfFuel :=
  fun ts h => (transTVList_error f ts h).elim hf

theorem res_of_not_mem_keys {rsv : Resolver} {tv : String} (hk : tv ∉ rsv.keys) : rsv.res tv = .var tv := by
  have : rsv.find? (fun p => p.1 == tv) = none := by
    rw [List.find?_eq_none]
    intro p hp heq
    exact hk (List.mem_map.mpr ⟨p, hp, beq_iff_eq.mp heq⟩)
  simp only [Resolver.res, this, Option.map_none, Option.getD_none]

/-- the depth of the resolution is bounded by the number of bound names not yet on the path -/
theorem resolveIn_fuel (rsv : Resolver) : ∀ (fuel : Nat) (visiting : List String) (tv : String),
    visiting.Nodup → (∀ v ∈ visiting, v ∈ rsv.keys) → rsv.keys.length < fuel + visiting.length →
    resolveIn rsv fuel visiting tv ≠ .error .outOfFuel := by
  intro fuel
  induction fuel with
  | zero =>
    intro visiting tv hnd hsub hlen
    have := hnd.length_le_of_subset hsub
    omega
  | succ f ih =>
    intro visiting tv hnd hsub hlen
    rw [resolveIn]
    split
    · nofun
    · next hv =>
      by_cases hk : tv ∈ rsv.keys
      · -- a bound name: one more name on the path
        have hrec : ∀ a, resolveIn rsv f (visiting ++ [tv]) a ≠ .error .outOfFuel := fun a =>
          ih _ a ((List.perm_append_singleton tv visiting).nodup_iff.mpr (List.nodup_cons.mpr ⟨hv, hnd⟩))
            (List.forall_mem_append.mpr ⟨hsub, List.forall_mem_singleton.mpr hk⟩)
            (by
              rw [List.length_append, List.length_singleton]
              omega)
        split
        · split
          · nofun
          · exact transTV_fuel _ hrec _
        · exact transTV_fuel _ hrec _
      · rw [res_of_not_mem_keys hk]
        simp

/-- **termination of type resolution** (after fix 1e8a7fd): with fuel above the number of bound
names, resolving any type against any resolver ends with a type or with the recursive-type diagnostic -/
theorem resolve_terminates (rsv : Resolver) (t : ITy) (fuel : Nat) (h : rsv.keys.length < fuel) :
    resolveType rsv fuel t ≠ .error .outOfFuel := by
  unfold resolveType
  exact transTV_fuel _ (fun a => resolveIn_fuel rsv fuel [] a List.nodup_nil (by simp) (by simpa using h)) t

/-- the code before the fix: the same recursion without the visiting check -/
def resolveUnfixed (rsv : Resolver) : (fuel : Nat) → String → Except Err ITy
  | 0, _ => .error .outOfFuel
  | fuel + 1, tv =>
    match rsv.res tv with
    | .var tv2 => if tv2 = tv then .ok (.var tv2) else transTV (resolveUnfixed rsv fuel) (.var tv2)
    | rcand => transTV (resolveUnfixed rsv fuel) rcand

/-- witness: `let f x = x x` gives the binding a ↦ a -> b; resolving a exhausts every fuel
(the real compiler overflowed its stack: defect D2) -/
theorem resolve_unfixed_diverges : ∀ fuel, resolveUnfixed [("a", .con "->" [.var "a", .var "b"])] fuel "a" = .error .outOfFuel := by
  intro fuel
  induction fuel with
  | zero => rfl
  | succ f ih =>
    simp only [resolveUnfixed, Resolver.res, List.find?_cons, beq_self_eq_true, Option.map_some, Option.getD_some]
    simp [transTV, transTVList, ih]

/-- … while the fixed code reports it -/
example : resolveType [("a", .con "->" [.var "a", .var "b"])] 5 (.var "a") = .error (.cyclic "a") := by rfl

/-- non-vacuity: an acyclic resolver resolves through two levels -/
example : resolveType [("a", .con "[]" [.var "b"]), ("b", .con "int" [])] 5 (.con "*" [.var "a", .var "c"]) =
    .ok (.con "*" [.con "[]" [.con "int" []], .var "c"]) := by rfl

end Folang.Props.C16
