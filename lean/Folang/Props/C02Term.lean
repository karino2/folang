import Folang.Props.C02Unify

/-!
# C02 — the reference unifier terminates, and its answer does not depend on the step bound

`unify` takes a step bound.  Once it has answered (`ok` or `clash`) with some bound it gives the same
answer with every larger bound: the bound never changes WHAT is answered, only whether an answer is
reached.  (The stream `c02.graph` answers an exhausted bound as outside-fragment: counted, not compared.)

For every system of equations there is a step bound with which `unify` answers.  The measure is the
classical one: (number of variables that can still occur, total size of the equations),
lexicographically — an elimination step removes its variable from all remaining equations (the occurs
check guarantees that the substituted type does not bring it back), a decomposition step shrinks the
equations.
-/

namespace Folang.Unify
open Folang.Infer Folang.Props.C02Unify

theorem unify_fuel_mono : ∀ (f : Nat) (eqs : List Eqn) (acc : Bindings) (r : Res),
    unify f eqs acc = r → r ≠ .fuel → unify (f + 1) eqs acc = r
  | 0, _, _, _, h, hr => absurd h.symm hr
  | _ + 1, [], _, _, h, _ => h
  | f + 1, e :: rest, acc, r, h, hr => by
    rcases unify_step e rest acc with ⟨eqs', acc', _, hu⟩ | ⟨_, hu⟩
    · rw [hu] at h ⊢
      exact unify_fuel_mono f eqs' acc' r h hr
    · rw [hu] at h ⊢
      exact h

theorem unify_fuel_indep (f k : Nat) (eqs : List Eqn) (acc : Bindings) (r : Res)
    (h : unify f eqs acc = r) (hr : r ≠ .fuel) : unify (f + k) eqs acc = r := by
  induction k with
  | zero => exact h
  | succ k ih => exact unify_fuel_mono (f + k) eqs acc r ih hr

theorem unify_answer_unique (f g : Nat) (eqs : List Eqn) (acc : Bindings)
    (hf : unify f eqs acc ≠ .fuel) (hg : unify g eqs acc ≠ .fuel) : unify f eqs acc = unify g eqs acc := by
  rcases Nat.le_total f g with h | h
  · obtain ⟨k, rfl⟩ := Nat.exists_eq_add_of_le h
    exact (unify_fuel_indep f k eqs acc _ rfl hf).symm
  · obtain ⟨k, rfl⟩ := Nat.exists_eq_add_of_le h
    exact unify_fuel_indep g k eqs acc _ rfl hg

def occEqs (v : String) : List Eqn → Bool
  | [] => false
  | e :: es => occurs v e.1 || occurs v e.2 || occEqs v es

def sizeEqs : List Eqn → Nat
  | [] => 0
  | e :: es => tySize e.1 + tySize e.2 + sizeEqs es

theorem occursL_iff (v : String) : ∀ (ts : List ITy), occursL v ts = true ↔ ∃ t ∈ ts, occurs v t = true
  | [] => by simp [occursL]
  | t :: ts => by simp only [occursL, Bool.or_eq_true, occursL_iff v ts, List.mem_cons, exists_eq_or_imp]

theorem occEqs_iff (v : String) : ∀ (es : List Eqn),
    occEqs v es = true ↔ ∃ e ∈ es, occurs v e.1 = true ∨ occurs v e.2 = true
  | [] => by simp [occEqs]
  | e :: es => by simp only [occEqs, Bool.or_eq_true, occEqs_iff v es, List.mem_cons, exists_eq_or_imp]

theorem sizeEqs_append : ∀ (xs ys : List Eqn), sizeEqs (xs ++ ys) = sizeEqs xs + sizeEqs ys
  | [], ys => (Nat.zero_add _).symm
  | x :: xs, ys => by
    simp only [List.cons_append, sizeEqs, sizeEqs_append xs ys]
    omega

theorem sizeEqs_zip : ∀ (as bs : List ITy), sizeEqs (as.zip bs) ≤ tysSize as + tysSize bs
  | [], _ => Nat.zero_le _
  | _ :: _, [] => Nat.zero_le _
  | a :: as, b :: bs => by
    have := sizeEqs_zip as bs
    simp only [List.zip_cons_cons, sizeEqs, tysSize]
    omega

mutual
theorem occurs_subst (v a : String) (t : ITy) : ∀ (u : ITy), occurs v (u.subst (sub1 a t)) = true →
    (occurs v u = true ∧ v ≠ a) ∨ occurs v t = true
  | .var b, h => by
    simp only [ITy.subst, sub1] at h
    by_cases e : b = a
    · simp only [e, if_true] at h; exact Or.inr h
    · simp only [e, if_false] at h
      have hv : v = b := by simpa [occurs] using h
      exact Or.inl ⟨h, by rw [hv]; exact e⟩
  | .con g as, h => by
    simp only [ITy.subst, occurs] at h
    exact (occursL_subst v a t as h).imp_left fun h' => ⟨by simpa [occurs] using h'.1, h'.2⟩
theorem occursL_subst (v a : String) (t : ITy) : ∀ (us : List ITy), occursL v (substList (sub1 a t) us) = true →
    (occursL v us = true ∧ v ≠ a) ∨ occurs v t = true
  | [], h => by simp [substList, occursL] at h
  | u :: us, h => by
    simp only [substList, occursL, Bool.or_eq_true] at h
    rcases h with h | h
    · exact (occurs_subst v a t u h).imp_left fun h' => ⟨by simp [occursL, h'.1], h'.2⟩
    · exact (occursL_subst v a t us h).imp_left fun h' => ⟨by simp [occursL, h'.1], h'.2⟩
end

theorem occEqs_substEqs (v a : String) (t : ITy) (es : List Eqn) (h : occEqs v (substEqs a t es) = true) :
    (occEqs v es = true ∧ v ≠ a) ∨ occurs v t = true := by
  obtain ⟨_, he', h⟩ := (occEqs_iff v _).mp h
  obtain ⟨e, he, rfl⟩ := List.mem_map.mp he'
  rcases h with h | h
  · exact (occurs_subst v a t e.1 h).imp_left fun h' => ⟨(occEqs_iff v es).mpr ⟨e, he, .inl h'.1⟩, h'.2⟩
  · exact (occurs_subst v a t e.2 h).imp_left fun h' => ⟨(occEqs_iff v es).mpr ⟨e, he, .inr h'.1⟩, h'.2⟩

/-- the elimination step: every variable left is one of `vs` other than `a` -/
theorem elim_vars (vs : List String) (a : String) (t : ITy) (rest : List Eqn)
    (hv : ∀ v, occEqs v ((.var a, t) :: rest) = true → v ∈ vs) (hocc : occurs a t = false) :
    ∀ v, occEqs v (substEqs a t rest) = true → v ∈ vs.filter (fun x => x != a) := by
  intro v h
  rw [List.mem_filter]
  rcases occEqs_substEqs v a t rest h with ⟨h1, h2⟩ | h1
  · exact ⟨hv v (by simp [occEqs, h1]), by simpa using h2⟩
  · refine ⟨hv v (by simp [occEqs, h1]), ?_⟩
    have : v ≠ a := fun e => by rw [e, hocc] at h1; exact absurd h1 (by simp)
    simpa using this

theorem next_decreases {eqs eqs' : List Eqn} {acc acc' : Bindings} (h : Next eqs acc eqs' acc') {vs : List String}
    (hv : ∀ v, occEqs v eqs = true → v ∈ vs) :
    ∃ vs' : List String, (∀ v, occEqs v eqs' = true → v ∈ vs') ∧
      Prod.Lex (· < ·) (· < ·) (vs'.length, sizeEqs eqs') (vs.length, sizeEqs eqs) := by
  cases h with
  | drop a rest =>
    refine ⟨vs, fun v h => hv v (by simp only [occEqs, h, Bool.or_true]), .right _ ?_⟩
    simp only [sizeEqs, tySize]
    omega
  | elim a t e rest _ he hocc =>
    have hv' : ∀ v, occEqs v ((.var a, t) :: rest) = true → v ∈ vs := by
      rcases he with rfl | rfl
      · exact hv
      · intro v h
        apply hv v
        simp only [occEqs] at h ⊢
        rwa [Bool.or_comm (occurs v t)]
    refine ⟨_, elim_vars vs a t rest hv' hocc, .left _ _ ?_⟩
    exact List.length_filter_lt_length_iff_exists.mpr ⟨a, hv' a (by simp only [occEqs, occurs, beq_self_eq_true, Bool.true_or]), by simp⟩
  | split g as bs rest _ hl =>
    refine ⟨vs, fun v h => hv v ?_, .right _ ?_⟩
    · -- an equation of `as.zip bs` has its sides in `as` and `bs`
      obtain ⟨e, he, h⟩ := (occEqs_iff v _).mp h
      rcases List.mem_append.mp he with he | he
      · have hz := List.of_mem_zip (show (e.1, e.2) ∈ as.zip bs from he)
        refine (occEqs_iff v _).mpr ⟨_, .head _, ?_⟩
        simp only [occurs, occursL_iff]
        exact h.imp (fun h => ⟨_, hz.1, h⟩) (fun h => ⟨_, hz.2, h⟩)
      · exact (occEqs_iff v _).mpr ⟨e, .tail _ he, h⟩
    · have := sizeEqs_zip as bs
      simp only [sizeEqs_append, sizeEqs, tySize]
      omega

theorem unify_terminates_of (vs : List String) (eqs : List Eqn) (acc : Bindings)
    (hv : ∀ v, occEqs v eqs = true → v ∈ vs) : ∃ f, unify f eqs acc ≠ .fuel := by
  match eqs with
  | [] => exact ⟨1, Res.noConfusion⟩
  | e :: rest =>
    rcases unify_step e rest acc with ⟨eqs', acc', hn, hu⟩ | ⟨_, hu⟩
    · obtain ⟨vs', hv', hlt⟩ := next_decreases hn hv
      obtain ⟨f, hf⟩ := unify_terminates_of vs' eqs' acc' hv'
      exact ⟨f + 1, by rwa [hu]⟩
    · exact ⟨1, by rw [hu]; exact Res.noConfusion⟩
termination_by (vs.length, sizeEqs eqs)
decreasing_by exact hlt

mutual
theorem occurs_mem_tyVars (v : String) : ∀ (t : ITy), occurs v t = true → v ∈ tyVars t
  | .var b, h => by simpa [occurs, tyVars] using h
  | .con _ as, h => by simp only [occurs] at h; simpa [tyVars] using occursL_mem_tyVarsL v as h
theorem occursL_mem_tyVarsL (v : String) : ∀ (ts : List ITy), occursL v ts = true → v ∈ tyVarsL ts
  | [], h => by simp [occursL] at h
  | t :: ts, h => by
    simp only [occursL, Bool.or_eq_true] at h
    simp only [tyVarsL, List.mem_append]
    rcases h with h | h
    · exact Or.inl (occurs_mem_tyVars v t h)
    · exact Or.inr (occursL_mem_tyVarsL v ts h)
end

/-- **the reference unifier terminates**: for every system (and every accumulator) some step bound
yields an answer … -/
theorem unify_terminates (eqs : List Eqn) (acc : Bindings) : ∃ f, unify f eqs acc ≠ .fuel :=
  unify_terminates_of (eqs.flatMap fun e => tyVars e.1 ++ tyVars e.2) eqs acc fun v h =>
    have ⟨e, he, h⟩ := (occEqs_iff v eqs).mp h
    List.mem_flatMap.mpr ⟨e, he, List.mem_append.mpr (h.imp (occurs_mem_tyVars v _) (occurs_mem_tyVars v _))⟩

/-- … and every larger bound yields the same one -/
theorem unify_total (eqs : List Eqn) (acc : Bindings) :
    ∃ f r, r ≠ .fuel ∧ ∀ k, unify (f + k) eqs acc = r := by
  obtain ⟨f, hf⟩ := unify_terminates eqs acc
  exact ⟨f, unify f eqs acc, hf, fun k => unify_fuel_indep f k eqs acc _ rfl hf⟩

/-- the certified reference terminates too: some bound yields `ok` or `clash`, every larger bound the same -/
theorem unifyC_total (eqs : List Eqn) : ∃ f r, r ≠ .fuel ∧ ∀ k, unifyC (f + k) eqs = r := by
  obtain ⟨f, r, hr, h⟩ := unify_total eqs []
  exact ⟨f, r, hr, fun k => by rw [unifyC_eq_unify]; exact h k⟩

end Folang.Unify
