import Folang.Model.Tiny
import Folang.Props.C08
import Folang.Spec.OpTable
import Folang.Generated.TinyFacts
import Folang.Lemmas.TableRows
/-
C17 — tinyfo (the bootstrap transpiler) preserves behaviour on the early-Folang subset.  (PARTIAL)

Machine-checked here, for all inputs:
  * `tiny_is_climb`   : tinyfo's parser loop computes exactly the precedence-climbing function `climb`
                        that models fc's parseBinAfter (C08), for every table, chain and fuel;
  * `tiny_eq_group`   : hence it returns the reference grouping (by rank, left-associative);
  * `tiny_agrees_with_fc` : on every chain of tinyfo's operators, tinyfo and fc build the SAME tree —
                        the two tables agree on the shared operators (`tables_agree`, by `decide` over
                        the whole finite table) and grouping depends on the table only through the
                        operators that occur (`group_congr`);
  * facts regenerated from tinyfo/parser.go on every run: the table, the two uses of `.precedence`,
    and the top-level `minPrec = 1`.
The behavioural statement itself is decided by execution against the Lean reference evaluator (stream
c01.prog) and against fc's translation of the same text; see lib/props/c17.py.
-/
namespace Folang.Props.C17
open Folang.Prec Folang.Tiny
variable {α : Type} (prec : Nat → Nat)

/-- tinyfo's loop IS `climb` (the loop's accumulator is climb's `lhs`; a right operand parsed by a
recursive call of parseExprWithPrecedence is climb started from an atom) -/
theorem tiny_is_climb : ∀ (fuel m : Nat) (expr : G α) (rest : List (Nat × α)),
    tinyLoop prec fuel m expr rest = climb prec fuel m expr rest := by
  intro fuel m expr rest
  fun_induction climb prec fuel m expr rest with
  | case1 => rfl
  | case2 => rfl
  | case3 f m lhs op a rest h => exact if_pos h
  | case4 f m lhs op a rest h rhs rest' hr ih1 ih2 =>
    rw [tinyLoop, if_neg h, ih1, hr]
    exact ih2

theorem tiny_eq_group (a0 : α) (chain : List (Nat × α)) (m : Nat) (hm : ∀ e ∈ chain, m ≤ prec e.1) :
    tinyExpr prec (chain.length + 1) m a0 chain = (group prec (.atom a0) chain, []) := by
  unfold tinyExpr
  rw [tiny_is_climb]
  exact Folang.Props.C08.climb_eq_group prec a0 chain m hm

def opsOf : G α → List Nat
  | .atom _ => []
  | .bin op l r => op :: (opsOf l ++ opsOf r)

theorem insert_congr (p1 p2 : Nat → Nat) (t : G α) (op : Nat) (b : α)
    (ht : ∀ k ∈ opsOf t, p1 k = p2 k) (hop : p1 op = p2 op) :
    Prec.insert p1 t op b = Prec.insert p2 t op b := by
  induction t with
  | atom a => rfl
  | bin op' l r _ ihr =>
    have h' : p1 op' = p2 op' := ht op' (by simp [opsOf])
    have hr : ∀ k ∈ opsOf r, p1 k = p2 k := fun k hk => ht k (by simp [opsOf, hk])
    simp only [Prec.insert, h', hop, ihr hr]

theorem opsOf_eq (t : G α) : opsOf t = C08.opsOfG t := by
  induction t with
  | atom a => rfl
  | bin op l r ihl ihr => rw [opsOf, C08.opsOfG, ihl, ihr]

theorem opsOf_insert (p : Nat → Nat) (t : G α) (op : Nat) (b : α) :
    ∀ k ∈ opsOf (Prec.insert p t op b), k = op ∨ k ∈ opsOf t := by
  intro k
  rw [opsOf_eq, opsOf_eq, C08.mem_opsOfG, C08.mem_opsOfG, C08.flatten_insert, List.map_append, List.mem_append]
  exact fun h => h.symm.imp_left List.eq_of_mem_singleton

/-- grouping depends on the table only through the operators that occur -/
theorem group_congr (p1 p2 : Nat → Nat) (t : G α) (chain : List (Nat × α))
    (ht : ∀ k ∈ opsOf t, p1 k = p2 k) (hc : ∀ e ∈ chain, p1 e.1 = p2 e.1) :
    group p1 t chain = group p2 t chain := by
  induction chain generalizing t with
  | nil => rfl
  | cons e rest ih =>
    have he : p1 e.1 = p2 e.1 := hc e List.mem_cons_self
    rw [C08.group_cons, C08.group_cons, insert_congr p1 p2 t e.1 e.2 ht he]
    apply ih
    · intro k hk
      rcases opsOf_insert p2 t e.1 e.2 k hk with h | h
      · rw [h]; exact he
      · exact ht k h
    · exact fun x hx => hc x (List.mem_cons_of_mem _ hx)

/-- the two tables give every shared operator the same rank (the whole finite table, by evaluation) -/
theorem tables_agree : ∀ k, k < tinyTable.length → tinyPrec k = Folang.Spec.publishedPrec k := by decide

/-- tinyfo's table is fc's published table without `*` and `/`: same token, same Go operator, same order -/
theorem tiny_table_is_prefix :
    tinyTable = (Folang.Spec.publishedTable.take 11).map (fun r => (r.2.1, r.2.2.1, r.2.2.2.1)) := rfl

theorem tiny_ranks_positive : ∀ k, k < tinyTable.length → 1 ≤ tinyPrec k := by decide

/-- **tinyfo and fc group every chain of the shared operators identically**: parseExpr of tinyfo and
fc's parseExprWithPrec 1 (as `climb` over the published table) return the same tree and consume the
whole chain, for every chain length and every operand. -/
theorem tiny_agrees_with_fc (a0 : α) (chain : List (Nat × α)) (hops : ∀ e ∈ chain, e.1 < tinyTable.length) :
    tinyParseExpr a0 chain = climb Folang.Spec.publishedPrec (chain.length + 1) 1 (.atom a0) chain := by
  have h1 : ∀ e ∈ chain, 1 ≤ tinyPrec e.1 := fun e he => tiny_ranks_positive e.1 (hops e he)
  have h2 : ∀ e ∈ chain, 1 ≤ Folang.Spec.publishedPrec e.1 := fun e he => by
    rw [← tables_agree e.1 (hops e he)]; exact h1 e he
  unfold tinyParseExpr
  rw [tiny_eq_group tinyPrec a0 chain 1 h1, Folang.Props.C08.climb_eq_group _ a0 chain 1 h2]
  congr 1
  exact group_congr _ _ _ _ (by simp [opsOf]) (fun e he => tables_agree e.1 (hops e he))

/-- non-vacuity: `a - b + c < d && e` is a chain of tinyfo operators; both parsers give ((((a-b)+c)<d)&&e) -/
example : (tinyParseExpr "a" [(10, "b"), (9, "c"), (4, "d"), (1, "e")]).1 =
    .bin 1 (.bin 4 (.bin 9 (.bin 10 (.atom "a") (.atom "b")) (.atom "c")) (.atom "d")) (.atom "e") := by decide

/-- the table in the code (regenerated from tinyfo/parser.go) is the modelled table (as a set of rows) -/
theorem fact_tinyTable :
    (∀ r ∈ Folang.Generated.tinyBinOpTable, r ∈ tinyTable) ∧
    (∀ r ∈ tinyTable, r ∈ Folang.Generated.tinyBinOpTable) ∧
    Folang.Generated.tinyBinOpTable.length = tinyTable.length :=
  -- the extractor prints the rows sorted by token type, `tinyTable` lists them by rank: the list of numbers
  -- is the place of each printed row in `tinyTable`
  have h := Folang.Lemmas.same_rows (A := Folang.Generated.tinyBinOpTable) (B := tinyTable)
    [1, 2, 8, 7, 5, 3, 6, 4, 10, 0, 9] rfl (by decide)
  ⟨h.1, h.2, rfl⟩

/-- the loop stops on `precedence < minPrec` and parses the right operand with `precedence + 1` -/
theorem fact_tinyPrecedenceUses : Folang.Generated.tinyPrecedenceUses =
    ["parseExprWithPrecedence: binInfo.precedence < minPrec", "parseExprWithPrecedence: binInfo.precedence + 1"] := rfl

/-- parseExpr starts the loop with minPrec = 1 -/
theorem fact_tinyMinPrec : Folang.Generated.tinyParseExprMinPrec = ["1"] := rfl

end Folang.Props.C17
