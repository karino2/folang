import Folang.Model.Driver
import Folang.Model.Tokenizer
import Folang.Lemmas.TokProgress
/-
C16 — fc always terminates with either complete output or a diagnostic.  (PARTIAL)

Full statement (kept visible; not provable in any model: it speaks of the Go runtime):
  `C16_full`: for every argument list and file content the process terminates; exit 0 only if every
  requested gen_*.go was completely written; otherwise non-zero exit after a diagnostic, nothing
  written for the offending file, no hang, no runtime fatal error.
Proved parts:
  * `driver_exit0_complete`, `driver_failure_discipline` — the driver (all argument lists);
  * `scan_progress` — every token returned by the scanner model consumes at least one byte and stays
    inside the buffer (all byte strings, every scanner); `nextNonSpace_none_is_panic` — the token
    loop never runs out of fuel: it fails only where a scanner panics (= diagnostic);
    `tkzNext_advances` — the next token begins at or after the end of the current one, inside the buffer.
Missing: termination of the parser, of inference (the occurs check of fix 1e8a7fd is tied by the
mutant stream, not modelled) and of emission; Go stack / memory exhaustion on huge inputs.
-/
namespace Folang.Props.C16
open Folang.Driver

/-- the full statement, over an abstract "run the real process" function -/
def C16_full (run : List (String × List UInt8) → Option (Nat × List String × Option String)) : Prop :=
  ∀ args, ∃ code written diag, run args = some (code, written, diag) ∧
    (code = 0 → ∀ a ∈ args, a.1.endsWith ".fo" → a.1 ∈ written) ∧
    (code ≠ 0 → ∃ d, diag = some d ∧ d ∉ written)

theorem transpileOne_cases (f : FileArg) :
    transpileOne f = (some f.name, []) ∨ transpileOne f = (none, if f.isFo then [f.name] else []) := by
  unfold transpileOne
  cases f.readable
  · exact .inl rfl
  cases f.translates
  · exact .inl rfl
  cases f.isFo
  · exact .inr rfl
  cases f.writable
  · exact .inl rfl
  · exact .inr rfl

theorem transpileFiles_stop {a : FileArg} {d : String} {w : List String} (rest : List FileArg)
    (h : transpileOne a = (some d, w)) : transpileFiles (a :: rest) = ⟨false, w, some d⟩ := by
  simp only [transpileFiles, h]

theorem transpileFiles_go {a : FileArg} {w : List String} (rest : List FileArg) (h : transpileOne a = (none, w)) :
    transpileFiles (a :: rest) = { transpileFiles rest with written := w ++ (transpileFiles rest).written } := by
  simp only [transpileFiles, h]

theorem driver_exit0_complete (args : List FileArg) (h : (transpileFiles args).exitOk = true) :
    ∀ f ∈ args, f.isFo = true → f.name ∈ (transpileFiles args).written := by
  induction args with
  | nil => intro f hf; cases hf
  | cons a rest ih =>
    intro f hf hfo
    rcases transpileOne_cases a with ho | ho
    · rw [transpileFiles_stop rest ho] at h
      cases h
    · rw [transpileFiles_go rest ho] at h ⊢
      rcases List.mem_cons.mp hf with rfl | hf'
      · simp [hfo]
      · exact List.mem_append_right _ (ih h f hf' hfo)

/-- failure ⇒ a diagnostic names the offending argument, nothing is written for it nor for any later
argument, and every earlier .fo argument has its file -/
theorem driver_failure_discipline (args : List FileArg) (h : (transpileFiles args).exitOk = false) :
    ∃ pre f post, args = pre ++ f :: post ∧ (transpileFiles args).diag = some f.name ∧
      (transpileOne f).1 = some f.name ∧
      (transpileFiles args).written = (pre.filter (·.isFo)).map (·.name) ∧
      (∀ p ∈ pre, (transpileOne p).1 = none) := by
  induction args with
  | nil => cases h
  | cons a rest ih =>
    rcases transpileOne_cases a with ho | ho
    · rw [transpileFiles_stop rest ho]
      exact ⟨[], a, rest, rfl, rfl, by rw [ho], rfl, nofun⟩
    · -- `a` goes through: the offending argument is the one of `rest`, with `a` in front of `pre`
      rw [transpileFiles_go rest ho] at h ⊢
      obtain ⟨pre, f, post, hsplit, hdiag, hone, hwr, hpre⟩ := ih h
      refine ⟨a :: pre, f, post, by rw [hsplit]; rfl, hdiag, hone, ?_, ?_⟩
      · simp only [hwr, List.filter_cons]
        cases a.isFo <;> rfl
      · intro p hp
        rcases List.mem_cons.mp hp with rfl | hp'
        · rw [ho]
        · exact hpre p hp'

/-- non-vacuity: a .foi, a good .fo, then a .fo that does not translate, then one never reached -/
example :
    transpileFiles [⟨"p.foi", false, true, true, true⟩, ⟨"a.fo", true, true, true, true⟩,
      ⟨"b.fo", true, true, false, true⟩, ⟨"c.fo", true, true, true, true⟩] =
    { exitOk := false, written := ["a.fo"], diag := some "b.fo" } := by decide

/-! ### the scanner makes progress -/

open Folang.Tokenizer Folang.Literal in
/-- **scan_progress**: on a non-empty rest of the buffer every token the scanner returns consumes at
least one byte and ends inside the buffer (all byte strings, every scanner) -/
theorem scan_progress (s : Bytes) (t : Tok) (h : scanTokenAt s = .tok t) (hne : s ≠ []) :
    0 < t.extent ∧ t.extent ≤ s.length :=
  have ⟨h1, h2, _⟩ := scanTokenAt_tok h
  ⟨h2 hne, h1⟩

open Folang.Tokenizer Folang.Literal in
/-- **the token loop never runs out of fuel**: with the fuel the tokenizer uses (buffer length + 2),
`nextToken` fails only where one of the scanners panics (= a diagnostic), never for lack of fuel —
the model's counterpart of "the scanner loop cannot spin" (it could before fix b8a3c7e) -/
theorem nextNonSpace_none_is_panic : ∀ (fuel : Nat) (s : Bytes) (off : Nat), s.length + 2 ≤ fuel →
    nextNonSpace fuel off s = none → ∃ k, scanTokenAt (s.drop k) = .panic := by
  intro fuel s off hf h
  rw [nextNonSpace_eq (Nat.le_of_add_left_le hf)] at h
  cases hn : spaceLen (s.length + 1) s with
  | none =>
    -- an unterminated comment: the SPACE scanner itself panics
    have hl : spaceLike s = true := by
      cases hl : spaceLike s with
      | true => rfl
      | false =>
        rw [spaceLen_notLike _ hl] at hn
        cases hn
    exact ⟨0, by rw [List.drop_zero, scanTokenAt_spaceLike hl, hn]; rfl⟩
  | some n =>
    -- or the scanner panics right behind the SPACE token
    rw [hn, Option.bind_some] at h
    cases hs : scanTokenAt (s.drop n) with
    | panic => exact ⟨n, hs⟩
    | tok t =>
      rw [hs] at h
      cases h

open Folang.Tokenizer Folang.Literal in
theorem nextNonSpace_bounds : ∀ (fuel : Nat) (s : Bytes) (off : Nat) {b : Nat} {t : Tok},
    nextNonSpace fuel off s = some (b, t) → off ≤ b ∧ b + t.len ≤ off + s.length := by
  intro fuel
  induction fuel with
  | zero =>
    intro s off b t h
    cases h
  | succ f ih =>
    intro s off b t h
    simp only [nextNonSpace] at h
    cases hs : scanTokenAt s with
    | panic =>
      rw [hs] at h
      cases h
    | tok t0 =>
      rw [hs] at h
      have hin := (scanTokenAt_tok hs).1
      by_cases hk : t0.kind = "SPACE"
      · simp only [if_pos hk] at h
        have := ih _ _ h
        rw [List.length_drop] at this
        omega
      · simp only [if_neg hk, Option.some.injEq, Prod.mk.injEq] at h
        obtain ⟨rfl, rfl⟩ := h
        simp only [Tok.extent] at hin
        omega

def Inside (z : Folang.Tokenizer.Tkz) : Prop := z.bpos + z.cur.len ≤ z.buf.length

open Folang.Tokenizer Folang.Literal in
theorem newTkz_inside (buf : Bytes) (z : Tkz) (h : newTkz buf = some z) : Inside z ∧ z.buf = buf := by
  obtain ⟨⟨b, t⟩, hn, rfl⟩ := Option.map_eq_some_iff.mp (newTkz_eq buf ▸ h)
  have := nextNonSpace_bounds _ _ _ hn
  exact ⟨Nat.le_trans this.2 (Nat.le_of_eq (Nat.zero_add _)), rfl⟩

open Folang.Tokenizer Folang.Literal in
/-- that positions strictly increase needs a current token that is not empty: `scan_progress` says so of a
scan result, nothing here says it of `z.cur` -/
theorem tkzNext_advances (z z' : Tkz) (hin : Inside z) (h : tkzNext z = some z') (hk : z.cur.kind ≠ "EOF") :
    z.bpos + z.cur.len ≤ z'.bpos ∧ z'.buf = z.buf ∧ Inside z' := by
  rw [tkzNext_inside hk hin] at h
  obtain ⟨⟨b, t⟩, hn, rfl⟩ := Option.map_eq_some_iff.mp h
  have := nextNonSpace_bounds _ _ _ hn
  rw [List.length_drop] at this
  refine ⟨this.1, rfl, ?_⟩
  unfold Inside at hin ⊢
  show b + t.len ≤ z.buf.length
  omega

end Folang.Props.C16
