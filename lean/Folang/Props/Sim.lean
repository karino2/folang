import Folang.Lemmas.SimWeaken
import Folang.Lemmas.SimCore
import Folang.Lemmas.SimPA
/-
C01 / C17 — forward simulation for the lowering of core Folang to Go-core.

`lower_correct`: for EVERY well-formed program of the core fragment, every fuel, if the reference
semantics (the evaluator the oracle runs: `runProg`) finishes with output `tr`, then the Go-core
semantics of the lowered program (`grunProg (lowerProg md P)`) finishes with the SAME output `tr` and a
related result.  No bound on program size, nesting, recursion depth, number of closures or calls.
The fragment: literals, variables, first-order primitives (operators, equality, tuples, records,
slices, constructors, printing, formatting, interpolation), `&&` `||`, if/else with block branches,
if-only statements, let / destructuring let / expression statements, full and PARTIAL application of
top-level functions, application of function values, lambdas (closures), pipes, slice.Map / Filter /
Fold with any function value, union match (binders, `_`, default) and string match in return and in
expression position, recursion.
Hypothesis `wfProg md` (decidable, checked per program by the oracle).  In both modes: no source variable
is named like a name the compiler makes up (`_pN`, `_rN`).  With `md = false` (tinyfo: every given
argument of a partial application stays inside the closure) in addition: the given arguments of a
partial application are PURE, built from literals, variables and output-free primitives (constructors,
operators, …) — with an effectful argument that lowering is NOT faithful (Props/C01.papp_effects_late:
defect D9, repaired in fc by 9abc13f, still tinyfo's behaviour).  With `md = true` (fc: the given arguments that are not inert are bound
first) nothing more is asked: `exampleD9` below has an effectful given argument.
What the theorem is about: the models `lowerE md …` (Sem/Lower.lean) and `gevalN` (Sem/GoCore.lean);
on every run the lowering is tied to the real compiler by stream sem.lower and the two semantics to real Go
by stream sem.prog (DESIGN §0.7).
-/
namespace Folang.Sem

variable {md : Bool} {P : Prog} {n : Nat}

theorem sim_applyFull (hP : wfProg md P) (ih : SimAt md P n) {f : String} {arity : Nat} {all : List SVal} {tr : Trace} {v : SVal}
    (h : applyFull (evalN P n) P f arity all = some (tr, v)) {gall : List GVal} (hr : VRels md all gall) :
    ∃ d, P.find f = some d ∧ d.params.length = gall.length ∧
      ∃ m gv, (gevalN (lowerProg md P) m).body (d.params.zip gall).reverse (lowerB md d.body) = some (tr, gv) ∧ VRel md v gv := by
  obtain ⟨hlen, d, hfind, hpl, hb⟩ := applyFull_eq_some_iff.mp h
  have he : ERel md (d.params.zip all).reverse (d.params.zip gall).reverse := by
    simpa using ERel.call (ps := d.params) hr (ERel.nil (bind := md))
  obtain ⟨m, gv, hg, hrv⟩ := ih.body hb (hP d (List.mem_of_find?_eq_some hfind)) he
  exact ⟨d, hfind, by rw [hpl, ← hlen, hr.length], m, gv, hg, hrv⟩

theorem stepExpr_sim (hP : wfProg md P) (ih : SimAt md P n) {env : Env} {e : Expr} {genv : GEnv} (hwf : wfE md e = true) (he : ERel md env genv) :
    Res.sim (VRel md) (stepExpr (evalN P n) P env e) (fun m => (gevalN (lowerProg md P) m).expr genv (lowerE md e)) := by
  cases e with
  | lit l => exact .succ (.pure (.fo _))
  | var x =>
    intro tr v h
    obtain ⟨rfl, hl⟩ := ofOpt_eq_some.mp h
    obtain ⟨gv, hgl, hrv⟩ := he.lookup (by simpa [wfE] using hwf) hl
    exact ⟨gv, gev_expr (g_var 0 hgl), hrv⟩
  | prim p args =>
    refine .succ (.bind (sim_list' ih he hwf) fun vs gvs hr => ?_)
    rw [hr.toFOs]
    cases gtoFOs gvs with
    | none => exact .stuck
    | some fos => exact .bind .refl fun v _ hv => hv ▸ .pure (.fo v)
  | and a b | or a b =>
    have hw := Bool.and_eq_true_iff.mp hwf
    refine .succ (.bind (ih.expr' hw.1 he) fun va gva hr => ?_)
    -- `split` takes the source's match; `cases hr` then makes `gva` the same constructor and the target's match computes
    split
    · cases hr
      exact .pure (.fo _)
    · cases hr
      exact ih.expr' hw.2 he
    · exact .stuck
  | ite c t f =>
    have hw : (wfE md c = true ∧ wfB md t = true) ∧ wfB md f = true := by simpa [wfE] using hwf
    -- the target evaluates the two func literals before it looks at the condition's value
    refine .succ (.bind (ih.expr' hw.1.1 he) fun vc gvc hr => .bindR (gev_funcLit _ _) (.bindR (gev_funcLit _ _) ?_))
    split
    · cases hr
      exact (ih.body' hw.1.2 he).thunk
    · cases hr
      exact (ih.body' hw.2 he).thunk
    · exact .stuck
  | call f arity args =>
    obtain ⟨hwl, hpure⟩ := wfE_call hwf
    intro tr v h
    obtain ⟨t1, vs, t2, h1, h2, rfl⟩ := Res.bind_eq_some.mp h
    have hlen : vs.length = args.length := evalList_length h1
    by_cases hlt : vs.length < arity
    · -- partial application: a closure over the missing parameters
      simp only [hlt, if_true] at h2
      obtain ⟨rfl, rfl⟩ := Res.pure_eq_some.mp h2
      have hlt' : args.length < arity := hlen ▸ hlt
      cases md with
      | false =>
        -- tinyfo: every given argument stays inside the closure (they are pure)
        have hat := hpure rfl hlt'
        obtain ⟨rfl, gvs, hga, hrv, hall⟩ := sim_atoms_of n (isPureForL _) (isGPureForL _) (fun _ _ => rfl) rfl (fun _ _ => rfl)
          (sim_pure (restNames (arity - args.length)) n) h1 hat hwl he
        refine ⟨.clo (restNames (arity - args.length))
          (.mk [] (.ret (.callFn f (lowerL false args ++ (restNames (arity - args.length)).map GExpr.var)))) genv, ?_, ?_⟩
        · simp only [lowerE, hlt', if_true, List.append_nil]
          exact gev_funcLit _ _
        · rw [← hlen] at hall ⊢
          exact VRel.pap hlt hga hrv (isGAtomL_of_pure hall)
      | true =>
        -- fc: the arguments that are not inert are evaluated first, into `_p…` bindings
        obtain ⟨m, X, gvs, _, hrun, hat, hrel, hgp⟩ := sim_paArgs ih (arity - args.length) args 0 h1 hwl he
        have hv := VRel.pap (f := f) hlt hat hrel (by rw [hlen]; exact hgp)
        rw [hlen] at hv
        simp only [lowerE, hlt', if_true]
        cases hemp : (paArgs 0 args (lowerL true args)).2.isEmpty with
        | true =>
          -- nothing to evaluate first: the closure itself
          rw [List.isEmpty_iff.mp hemp] at hrun
          obtain ⟨rfl, hX⟩ := Prod.mk.inj (Option.some.inj hrun)
          exact ⟨_, gev_funcLit _ _, hX ▸ hv⟩
        | false => exact ⟨_, gev_expr (g_iife (g_body_ret hrun (g_funcLit 0 _ _))), hv⟩
    · simp only [hlt, if_false] at h2
      have hlt' : ¬ args.length < arity := hlen ▸ hlt
      obtain ⟨m1, gvs, hg1, hr1⟩ := sim_list ih h1 hwl he
      obtain ⟨d, hfind, hpl, m2, gv, hg2, hr2⟩ := sim_applyFull hP ih h2 hr1
      have hl : lowerE md (.call f arity args) = .callFn f (lowerL md args) := by simp only [lowerE, hlt', if_false]
      exact ⟨gv, gev_expr (hl ▸ g_callFn hg1 (find_lower hfind) hpl hg2), hr2⟩
  | callv f args =>
    have hw := Bool.and_eq_true_iff.mp hwf
    exact .succ (.bind (ih.expr' hw.1 he) fun _ _ hr1 => .bind (sim_list' ih he hw.2) fun _ _ hr2 => ih.app' hr1 hr2)
  | lam ps b => exact .succ (.pure (.clo hwf he))
  | pipe a f =>
    have hw := Bool.and_eq_true_iff.mp hwf
    exact .succ (.bind (ih.expr' hw.1 he) fun _ _ hr1 => .bind (ih.expr' hw.2 he) fun _ _ hr2 => ih.app' hr2 (.cons hr1 .nil))
  | hof hn f args =>
    have hw := Bool.and_eq_true_iff.mp hwf
    refine .succ (.bind (ih.expr' hw.1 he) fun vf gvf hr1 => .bind (sim_list' ih he hw.2) fun vs gvs hr2 => ?_)
    split
    · obtain _ | ⟨⟨_⟩, ⟨⟩⟩ := hr2
      refine .bind (sim_mapApp' ih hr1) fun ys gys hr3 => ?_
      rw [hr3.toFOs]
      cases gtoFOs gys with
      | none => exact .stuck
      | some fos => exact .pure (.fo _)
    · obtain _ | ⟨⟨_⟩, ⟨⟩⟩ := hr2
      exact .bind (sim_filterApp' ih hr1) fun ys _ hys => hys ▸ .pure (.fo _)
    · obtain _ | ⟨hv0, _ | ⟨⟨_⟩, ⟨⟩⟩⟩ := hr2
      exact sim_foldApp' ih hr1 hv0
    · exact .stuck
  | matchE t arms =>
    have hw := Bool.and_eq_true_iff.mp hwf
    exact .succ (.iife_switch (sim_match' ih hw.1 hw.2 he))
  | matchSE t arms =>
    have hw := Bool.and_eq_true_iff.mp hwf
    exact .succ (.iife_switchS (sim_matchS' ih hw.1 hw.2 he))

theorem stepBody_sim (ih : SimAt md P n) {env : Env} {b : Body} {genv : GEnv} (hwf : wfB md b = true) (he : ERel md env genv) :
    Res.sim (VRel md) (stepBody (evalN P n) env b) (fun m => (gevalN (lowerProg md P) m).body genv (lowerB md b)) := by
  obtain ⟨ss, tail⟩ := b
  have hw := Bool.and_eq_true_iff.mp hwf
  refine .succ (.bind (sim_stmts' ih hw.1 he) fun env' genv' he' => ?_)
  cases tail with
  | ret e => exact ih.expr' hw.2 he'
  | matchT t arms =>
    have hw2 := Bool.and_eq_true_iff.mp hw.2
    exact sim_match' ih hw2.1 hw2.2 he'
  | matchST t arms =>
    have hw2 := Bool.and_eq_true_iff.mp hw.2
    exact sim_matchS' ih hw2.1 hw2.2 he'

theorem stepApp_sim (hP : wfProg md P) (ih : SimAt md P n) {f : SVal} {args : List SVal} {gf : GVal} {gargs : List GVal}
    (hf : VRel md f gf) (hargs : VRels md args gargs) :
    Res.sim (VRel md) (stepApp (evalN P n) P f args) (fun m => (gevalN (lowerProg md P) m).app gf gargs) := by
  match f, gf, hf with
  | _, _, .fo x => exact .stuck
  | _, _, .clo (ps := ps) hwb hce =>
    refine .succ ?_
    simp only [stepApp, gevalN, gstepApp, hargs.length]
    split
    · exact ih.body' hwb (ERel.call hargs hce)
    · exact .stuck
  | _, _, .pap (arity := arity) (vs := vs) (ges := ges) (genv := genv) (k := k) hlt hga hvs hall =>
    -- the closure evaluates its atoms again, then its own parameters, and calls `f`
    intro tr v h
    obtain ⟨gvs', hatoms, hvs'⟩ := geval_atoms (lowerProg md P) (arity - vs.length) gargs genv k ges hvs hga hall
    obtain ⟨d, hfind, hpl, m, gv, hg, hr⟩ := sim_applyFull hP ih h (VRels.append hvs' hargs)
    have hargsLen : (restNames (arity - vs.length)).length = gargs.length := by
      have hl := (applyFull_eq_some_iff.mp h).1
      rw [List.length_append] at hl
      rw [restNames_length, ← hargs.length]
      omega
    have hargsEval := evalList_append hatoms
      (evalList_rest_vars (lowerProg md P) k (restNames (arity - vs.length)) gargs genv (restNames_nodup _) hargsLen)
    exact ⟨gv, gev_app (g_app_clo hargsLen (g_body_ret (g_stmts_nil 0) (g_callFn hargsEval (find_lower hfind) hpl hg))), hr⟩

theorem sim_step (hP : wfProg md P) (ih : SimAt md P n) : SimAt md P (n + 1) :=
  ⟨fun h hwf _ he => (stepExpr_sim hP ih hwf he).exists_fuel h, fun h hwf _ he => (stepBody_sim ih hwf he).exists_fuel h,
    fun h _ _ hf ha => (stepApp_sim hP ih hf ha).exists_fuel h⟩

theorem sim (hP : wfProg md P) : ∀ n, SimAt md P n := by
  intro n
  induction n with
  | zero =>
    exact ⟨fun h => (nomatch h), fun h => (nomatch h), fun h => (nomatch h)⟩
  | succ n ih => exact sim_step hP ih

/-- **Forward simulation.**  If the reference semantics runs `entry ()` to completion with output `tr`,
so does the Go-core semantics of the lowered program, with the same output. -/
theorem lower_correct (P : Prog) (hP : wfProg md P) (entry : String) (n : Nat) (tr : Trace) (v : SVal)
    (h : runProg P entry n = some (tr, v)) :
    ∃ m gv, grunProg (lowerProg md P) entry m = some (tr, gv) ∧ VRel md v gv := by
  cases n with
  | zero => cases h
  | succ n =>
    have h : applyFull (evalN P n) P entry 0 [] = some (tr, v) := h
    obtain ⟨d, hfind, hpl, m, gv, hg, hr⟩ := sim_applyFull hP (sim hP n) h .nil
    exact ⟨_, gv, g_callFn (m1 := 0) (t1 := []) (gvs := []) rfl (find_lower hfind) hpl hg, hr⟩

/-! ### the result does not depend on the fuel -/

/-- the reference semantics is a (partial) function of the program: two completed runs agree -/
theorem runProg_deterministic (P : Prog) (entry : String) (n m : Nat) (r r' : Trace × SVal)
    (h : runProg P entry n = some r) (h' : runProg P entry m = some r') : r = r' :=
  Res.le_agree ((evalN_mono P (Nat.le_max_left n m)).app _ _) ((evalN_mono P (Nat.le_max_right n m)).app _ _) h h'

/-- so is the Go-core semantics -/
theorem grunProg_deterministic (GP : GProg) (entry : String) (n m : Nat) (r r' : Trace × GVal)
    (h : grunProg GP entry n = some r) (h' : grunProg GP entry m = some r') : r = r' :=
  Res.le_agree ((gevalN_mono GP (Nat.le_max_left n m)).expr _ _) ((gevalN_mono GP (Nat.le_max_right n m)).expr _ _) h h'

/-- **Forward simulation, in the form "the lowered program prints what the source prints".**
If the reference semantics finishes with output `tr`, then EVERY completed run of the Go-core
semantics on the lowered program — with whatever fuel — has exactly the output `tr` (and at least one
run completes). -/
theorem lower_correct_output (P : Prog) (hP : wfProg md P) (entry : String) (n : Nat) (tr : Trace) (v : SVal)
    (h : runProg P entry n = some (tr, v)) :
    (∃ m gv, grunProg (lowerProg md P) entry m = some (tr, gv)) ∧
    ∀ m tr' gv', grunProg (lowerProg md P) entry m = some (tr', gv') → tr' = tr := by
  obtain ⟨m0, gv, hg, _⟩ := lower_correct P hP entry n tr v h
  refine ⟨⟨m0, gv, hg⟩, ?_⟩
  intro m tr' gv' hg'
  have := grunProg_deterministic (lowerProg md P) entry m m0 _ _ hg' hg
  exact (Prod.mk.inj this).1

/-! ### non-vacuity: a concrete program meeting the hypotheses

    let add (a) (b) = a + b
    let main () =
      let f = add 1            -- partial application (atomic given argument)
      let g = fun (x) -> if x > 2 then (f x) else 0
      [3; 1] |> slice.Map g |> slice.Fold add 0      -- closures through library calls, pipes
-/
def exampleProg : Prog := [
  { name := "add", params := ["a", "b"], body := .mk [] (.ret (.prim (.arith "+") [.var "a", .var "b"])) },
  { name := "main", params := [], body := .mk
      [ .let1 "f" (.call "add" 2 [.lit (.int 1)]),
        .let1 "g" (.lam ["x"] (.mk [] (.ret (.ite (.prim (.arith ">") [.var "x", .lit (.int 2)])
            (.mk [] (.ret (.callv (.var "f") [.var "x"]))) (.mk [] (.ret (.lit (.int 0)))))))) ]
      (.ret (.pipe (.pipe (.prim .mkSlice [.lit (.int 3), .lit (.int 1)]) (.lam ["s"] (.mk [] (.ret (.hof "map" (.var "g") [.var "s"])))))
        (.lam ["s"] (.mk [] (.ret (.hof "fold" (.call "add" 2 []) [.lit (.int 0), .var "s"])))))) } ]

theorem exampleProg_wf : wfProg true exampleProg :=
  (wfProgB_iff true _).mp (by decide)

def intResult (r : Option (Trace × SVal)) : Option (Trace × Int) :=
  match r with
  | some (t, .fo (.lit (.int k))) => some (t, k)
  | _ => none

theorem intResult_eq_some {r : Option (Trace × SVal)} {t : Trace} {k : Int} (h : intResult r = some (t, k)) :
    r = some (t, .fo (.lit (.int k))) := by
  unfold intResult at h
  split at h
  · cases h
    rfl
  · cases h

/-- it runs to completion without output and returns 4 (kernel evaluation of the reference semantics) -/
theorem exampleProg_runs : intResult (runProg exampleProg "main" 30) = some ([], 4) := by decide

/-- hence, by the theorem, so does the Go-core semantics of its lowering -/
theorem exampleProg_lowered : ∃ m gv, grunProg (lowerProg true exampleProg) "main" m = some ([], gv) := by
  obtain ⟨m, gv, hg, _⟩ := lower_correct exampleProg exampleProg_wf "main" 30 _ _ (intResult_eq_some exampleProg_runs)
  exact ⟨m, gv, hg⟩

/-! ### non-vacuity for the repaired lowering: an EFFECTFUL given argument

    let add (a) (b) = a + b
    let say (tag) (v) = println tag; v
    let main () =
      let f = add (say "arg" 1)      -- evaluated once, here
      (f 2) + (f 3)
-/
def exampleD9 : Prog := [
  { name := "add", params := ["a", "b"], body := .mk [] (.ret (.prim (.arith "+") [.var "a", .var "b"])) },
  { name := "say", params := ["tag", "v"], body := .mk [.exec (.prim .println [.var "tag"])] (.ret (.var "v")) },
  { name := "main", params := [], body := .mk
      [ .let1 "f" (.call "add" 2 [.call "say" 2 [.lit (.str "arg"), .lit (.int 1)]]) ]
      (.ret (.prim (.arith "+") [.callv (.var "f") [.lit (.int 2)], .callv (.var "f") [.lit (.int 3)]])) } ]

theorem exampleD9_wf : wfProg true exampleD9 :=
  (wfProgB_iff true _).mp (by decide)

/-- the reference semantics prints "arg" ONCE and returns 7 -/
theorem exampleD9_runs : intResult (runProg exampleD9 "main" 20) = some (["arg\n"], 7) := by decide

/-- and so does every completed run of the lowered program (the lowering of fc after the fix), by the theorem -/
theorem exampleD9_lowered :
    ∀ m tr' gv', grunProg (lowerProg true exampleD9) "main" m = some (tr', gv') → tr' = ["arg\n"] :=
  (lower_correct_output exampleD9 exampleD9_wf "main" 20 _ _ (intResult_eq_some exampleD9_runs)).2

/-! nested partial applications and a lambda as given arguments (the inert rule of the emitter):

    let apply f x = f x
    let main () =
      let g = apply (add (say "arg" 1))     -- the inner partial application is NOT inert: bound once
      let h = apply (add 5)                 -- inert: stays inside the closure, rebuilt at every call
      let k = apply (fun y -> y + 1)        -- a lambda is inert
      (g 10) + (g 20) + (h 1) + (k 1)
-/
def exampleNested : Prog := [
  { name := "add", params := ["a", "b"], body := .mk [] (.ret (.prim (.arith "+") [.var "a", .var "b"])) },
  { name := "say", params := ["tag", "v"], body := .mk [.exec (.prim .println [.var "tag"])] (.ret (.var "v")) },
  { name := "apply", params := ["f", "x"], body := .mk [] (.ret (.callv (.var "f") [.var "x"])) },
  { name := "main", params := [], body := .mk
      [ .let1 "g" (.call "apply" 2 [.call "add" 2 [.call "say" 2 [.lit (.str "arg"), .lit (.int 1)]]]),
        .let1 "h" (.call "apply" 2 [.call "add" 2 [.lit (.int 5)]]),
        .let1 "k" (.call "apply" 2 [.lam ["y"] (.mk [] (.ret (.prim (.arith "+") [.var "y", .lit (.int 1)])))]) ]
      (.ret (.prim (.arith "+") [.prim (.arith "+") [.prim (.arith "+")
        [.callv (.var "g") [.lit (.int 10)], .callv (.var "g") [.lit (.int 20)]], .callv (.var "h") [.lit (.int 1)]],
        .callv (.var "k") [.lit (.int 1)]])) } ]

theorem exampleNested_wf : wfProg true exampleNested :=
  (wfProgB_iff true _).mp (by decide)

/-- "arg" is printed once although g is called twice: 11 + 21 + 6 + 2 -/
theorem exampleNested_runs : intResult (runProg exampleNested "main" 30) = some (["arg\n"], 40) := by decide

/-- the lowering keeps the inert inner partial application and the lambda inside the closures and binds
the other one: what `fcPartialApplyGo` emits -/
theorem exampleNested_lowering :
    ((lowerProg true exampleNested).find? (fun d => d.name == "main")).map (fun d => d.body) =
    some (.mk
      [ .define "g" (.callVal (.funcLit [] (.mk
          [ .define "_p0" (.callVal (.funcLit [] (.mk
              [ .define "_p0" (.callFn "say" [.lit (.str "arg"), .lit (.int 1)]) ]
              (.ret (.funcLit ["_r0"] (.mk [] (.ret (.callFn "add" [.var "_p0", .var "_r0"]))))))) []) ]
          (.ret (.funcLit ["_r0"] (.mk [] (.ret (.callFn "apply" [.var "_p0", .var "_r0"]))))))) []),
        .define "h" (.funcLit ["_r0"] (.mk [] (.ret (.callFn "apply"
          [.funcLit ["_r0"] (.mk [] (.ret (.callFn "add" [.lit (.int 5), .var "_r0"]))), .var "_r0"])))),
        .define "k" (.funcLit ["_r0"] (.mk [] (.ret (.callFn "apply"
          [.funcLit ["y"] (.mk [] (.ret (.prim (.arith "+") [.var "y", .lit (.int 1)]))), .var "_r0"])))) ]
      (.ret (.prim (.arith "+") [.prim (.arith "+") [.prim (.arith "+")
        [.callVal (.var "g") [.lit (.int 10)], .callVal (.var "g") [.lit (.int 20)]], .callVal (.var "h") [.lit (.int 1)]],
        .callVal (.var "k") [.lit (.int 1)]]))) := by rfl

end Folang.Sem
