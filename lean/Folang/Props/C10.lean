import Folang.Model.Equal
/-
C10 — `=` / `<>` are total structural equality on first-order values.

`opEqual_iff`: for ALL Folang values a, b (any nesting of ints, strings, bools, tuples, records with
any capitalisation of field names, unions, slices) and ALL Go values ga, gb representing them
(each empty slice independently nil or non-nil), `OpEqual ga gb` does not panic and returns
`decide (a = b)`.  Hence reflexive, symmetric, transitive; `<>` is the negation.
`unfixed_*`: the witnesses that plain `cmp.Equal` (the code before the fix) violates the statement.
-/
namespace Folang.Props.C10
open Folang.Equal

deriving instance DecidableEq for FVal, FVals, FFields

theorem both_ok (x y : Bool) : both (.ok x) (.ok y) = .ok (x && y) := rfl

theorem cmpEq_struct (e q : Bool) (n1 n2 : List String) (f1 f2 : GoFields) :
    cmpEq e q (.struct n1 f1) (.struct n2 f2) = if n1 ≠ n2 then .ok false else cmpFields e q f1 f2 := rfl

theorem cmpEq_iface (e q : Bool) (d1 d2 : GoVals) : cmpEq e q (.iface d1) (.iface d2) = cmpVals e q d1 d2 := rfl

theorem cmpEq_slice (e q : Bool) (e1 e2 : GoVals) : cmpEq e q (.slice e1) (.slice e2) = cmpVals e q e1 e2 := rfl

theorem cmpVals_nil (e q : Bool) : cmpVals e q .nil .nil = .ok true := rfl

theorem cmpVals_cons (e q : Bool) (h1 h2 : GoVal) (t1 t2 : GoVals) :
    cmpVals e q (.cons h1 t1) (.cons h2 t2) = both (cmpEq e q h1 h2) (cmpVals e q t1 t2) := rfl

theorem cmpFields_cons (e q : Bool) (n1 n2 : String) (v1 v2 : GoVal) (t1 t2 : GoFields) :
    cmpFields e q (.cons n1 v1 t1) (.cons n2 v2 t2) =
      if n1 ≠ n2 then .ok false
      else if !exported n1 && !e then .error ()
      else both (cmpEq e q v1 v2) (cmpFields e q t1 t2) := rfl

/- In both blocks below the pairs of different constructors are closed by `rfl`: each side computes to
`.ok false`.  In the first, `termination_by structural` is spelt out because Lean, left to find the
recursion itself (two of the theorems recurse on `FVals`), falls back to well-founded recursion, which
is several times dearer to check. -/

mutual
theorem cmp_lower : ∀ (a b : FVal), cmpEq true true (lower a) (lower b) = .ok (decide (a = b))
  | a, b => by
    cases a <;> cases b
    case int.int | str.str | bool.bool => exact congrArg Except.ok (by simp)
    case record.record n fs n' fs' =>
      rw [lower, lower, cmpEq_struct, cmp_lowerFields fs fs']
      by_cases hn : n = n' <;> simp [hn]
    case union.union u c ps u' c' ps' =>
      rw [lower, lower, cmpEq_iface, cmpVals_cons, cmpEq_struct, cmp_lowerPayload ps ps', cmpVals_nil]
      by_cases hu : u = u' <;> by_cases hc : c = c' <;> simp [hu, hc, both]
    case slice.slice es es' =>
      rw [lower, lower, cmpEq_slice, cmp_lowerVals es es']
      simp
    all_goals rfl
termination_by structural a => a
theorem cmp_lowerVals : ∀ (as bs : FVals), cmpVals true true (lowerVals as) (lowerVals bs) = .ok (decide (as = bs))
  | as, bs => by
    cases as <;> cases bs
    case cons.cons h t h' t' =>
      rw [lowerVals, lowerVals, cmpVals_cons, cmp_lower h h', cmp_lowerVals t t', both_ok]
      simp
    all_goals rfl
termination_by structural as => as
theorem cmp_lowerFields : ∀ (fs gs : FFields), cmpFields true true (lowerFields fs) (lowerFields gs) = .ok (decide (fs = gs))
  | fs, gs => by
    cases fs <;> cases gs
    case cons.cons n v t n' v' t' =>
      rw [lowerFields, lowerFields, cmpFields_cons, cmp_lower v v', cmp_lowerFields t t', both_ok]
      by_cases hn : n = n' <;> simp [hn]
    all_goals rfl
termination_by structural fs => fs
theorem cmp_lowerPayload : ∀ (ps qs : FVals), cmpFields true true (lowerPayload ps) (lowerPayload qs) = .ok (decide (ps = qs))
  | ps, qs => by
    cases ps <;> cases qs
    case cons.cons h t h' t' =>
      rw [lowerPayload, lowerPayload, cmpFields_cons, cmp_lower h h', cmp_lowerPayload t t', both_ok]
      simp
    all_goals rfl
termination_by structural ps => ps
end

mutual
/-- with EquateEmpty, cmp.Equal cannot see whether an empty slice is nil -/
theorem cmp_norm : ∀ (g1 g2 : GoVal), cmpEq true true g1 g2 = cmpEq true true (norm g1) (norm g2)
  | g1, g2 => by
    cases g1 <;> cases g2
    case struct.struct n fs n' fs' => simp only [norm, cmpEq_struct, cmp_normFields fs fs']
    case iface.iface d d' => simp only [norm, cmpEq_iface, cmp_normVals d d']
    case slice.slice e e' => simp only [norm, cmpEq_slice, cmp_normVals e e']
    case nilSlice.slice e | slice.nilSlice e => cases e <;> rfl
    all_goals rfl
theorem cmp_normVals : ∀ (a b : GoVals), cmpVals true true a b = cmpVals true true (normVals a) (normVals b)
  | a, b => by
    cases a <;> cases b
    case cons.cons h t h' t' => simp only [normVals, cmpVals_cons, cmp_norm h h', cmp_normVals t t']
    all_goals rfl
theorem cmp_normFields : ∀ (a b : GoFields), cmpFields true true a b = cmpFields true true (normFields a) (normFields b)
  | a, b => by
    cases a <;> cases b
    case cons.cons n v t n' v' t' => simp only [normFields, cmpFields_cons, cmp_norm v v', cmp_normFields t t']
    all_goals rfl
end

/-- **C10.** `OpEqual` is total and decides structural equality of the represented values -/
theorem opEqual_iff (a b : FVal) (ga gb : GoVal) (ra : Repr a ga) (rb : Repr b gb) :
    OpEqual ga gb = .ok (decide (a = b)) := by
  unfold OpEqual
  rw [cmp_norm, ra, rb]
  exact cmp_lower a b

theorem opEqual_never_panics (a b : FVal) (ga gb : GoVal) (ra : Repr a ga) (rb : Repr b gb) :
    OpEqual ga gb ≠ .error () := by
  rw [opEqual_iff a b ga gb ra rb]; intro h; cases h

theorem opEqual_refl (a : FVal) (ga ga' : GoVal) (r : Repr a ga) (r' : Repr a ga') :
    OpEqual ga ga' = .ok true := by
  rw [opEqual_iff a a ga ga' r r']; simp

theorem opEqual_symm (a b : FVal) (ga gb : GoVal) (ra : Repr a ga) (rb : Repr b gb) :
    OpEqual ga gb = OpEqual gb ga := by
  rw [opEqual_iff a b ga gb ra rb, opEqual_iff b a gb ga rb ra]
  congr 1; exact decide_eq_decide.mpr ⟨Eq.symm, Eq.symm⟩

theorem opEqual_trans (a b c : FVal) (ga gb gc : GoVal) (ra : Repr a ga) (rb : Repr b gb) (rc : Repr c gc)
    (h1 : OpEqual ga gb = .ok true) (h2 : OpEqual gb gc = .ok true) : OpEqual ga gc = .ok true := by
  rw [opEqual_iff a b ga gb ra rb] at h1
  rw [opEqual_iff b c gb gc rb rc] at h2
  rw [opEqual_iff a c ga gc ra rc]
  have e1 : a = b := of_decide_eq_true (by injection h1)
  have e2 : b = c := of_decide_eq_true (by injection h2)
  simp [e1, e2]

theorem opNotEqual_neg (a b : FVal) (ga gb : GoVal) (ra : Repr a ga) (rb : Repr b gb) :
    OpNotEqual ga gb = .ok (!decide (a = b)) := by
  unfold OpNotEqual; rw [opEqual_iff a b ga gb ra rb]; rfl

/-! ### witnesses against the code before the fix (plain `cmp.Equal`) -/

/-- `slice.New<int> ()` (empty, non-nil) vs a Filter result with no element (nil): equal values,
but plain cmp.Equal says false -/
theorem unfixed_nil_vs_empty :
    Repr (.slice .nil) (.slice .nil) ∧ Repr (.slice .nil) .nilSlice ∧
    OpEqualUnfixed (.slice .nil) .nilSlice = .ok false := by
  refine ⟨rfl, rfl, rfl⟩

/-- a record with a lower-case field: plain cmp.Equal panics -/
theorem unfixed_lowercase_field_panics :
    OpEqualUnfixed (lower (.record "point" (.cons "x" (.int 1) .nil))) (lower (.record "point" (.cons "x" (.int 1) .nil)))
      = .error () := by
  simp [OpEqualUnfixed, lower, lowerFields, cmpEq_struct, cmpFields_cons, exported]

/-- non-vacuity: a nested value with a nil slice inside a record inside a union is a representation -/
example : Repr (.union "Shape" "Poly" (.cons (.record "poly" (.cons "pts" (.slice .nil) .nil)) .nil))
    (.iface (.cons (.struct ["Shape", "Poly"] (.cons "Value" (.struct ["poly"] (.cons "pts" .nilSlice .nil)) .nil)) .nil)) := rfl

end Folang.Props.C10
