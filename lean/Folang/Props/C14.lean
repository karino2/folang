import Folang.Model.Lib
/-
C14 — dict, strings, buf and frt helpers behave as their signatures promise.
All theorems are about Model/Lib.lean, for all keys/values/strings/operation sequences.
-/
set_option linter.unusedSectionVars false
namespace Folang.Props.C14
open Folang.Lib

/-! ## dict: refinement to a finite map `κ → Option ν` (abstraction = `GoMap.get?`) -/
section dict
variable {κ ν : Type} [DecidableEq κ]

theorem get?_set (m : GoMap κ ν) (k k' : κ) (v : ν) :
    (m.set k v).get? k' = if k' = k then some v else m.get? k' := by
  rw [GoMap.set, GoMap.get?, List.find?_append, List.find?_filter, List.find?_singleton]
  by_cases h : k' = k
  · -- no entry that is kept has the key `k`
    have : m.find? (fun e => decide (decide (e.1 ≠ k) = true ∧ decide (e.1 = k') = true)) = none :=
      List.find?_eq_none.mpr fun e _ => by simp [h]
    rw [this, h]
    simp
  · -- for another key the filter does not matter
    have : (fun e : κ × ν => decide (decide (e.1 ≠ k) = true ∧ decide (e.1 = k') = true)) = fun e => decide (e.1 = k') :=
      funext fun e => by by_cases he : e.1 = k' <;> simp [he, h]
    rw [this]
    simp [h, Ne.symm h, GoMap.get?]

theorem add_refines (d : GoMap κ ν) (k k' : κ) (v : ν) :
    (dictAdd d k v).get? k' = if k' = k then some v else d.get? k' := get?_set d k k' v

theorem new_refines (k : κ) : (dictNew : GoMap κ ν).get? k = none := rfl

/-- the no-duplicate-keys invariant is kept by Add, hence holds in every reachable state -/
theorem add_wf (d : GoMap κ ν) (k : κ) (v : ν) (wf : d.WF) : (dictAdd d k v).WF := by
  simp only [dictAdd, GoMap.set, GoMap.WF, List.map_append, List.map_cons, List.map_nil]
  rw [List.nodup_append]
  refine ⟨?_, by simp, ?_⟩
  · exact (List.Nodup.sublist (List.Sublist.map _ List.filter_sublist) wf)
  · intro a ha b hb
    simp at hb; subst hb
    simp only [List.mem_map, List.mem_filter] at ha
    obtain ⟨e, ⟨_, he⟩, rfl⟩ := ha
    simpa using he

theorem foldl_add_wf (kvs : List (κ × ν)) (d : GoMap κ ν) (wf : d.WF) :
    (kvs.foldl (fun d e => dictAdd d e.1 e.2) d).WF := by
  induction kvs generalizing d with
  | nil => exact wf
  | cons e rest ih => exact ih _ (add_wf d e.1 e.2 wf)

theorem foldl_add_get (kvs : List (κ × ν)) (d : GoMap κ ν) (k : κ) :
    (kvs.foldl (fun d e => dictAdd d e.1 e.2) d).get? k =
      ((kvs.reverse.find? (fun e => decide (e.1 = k))).map (·.2)).or (d.get? k) := by
  induction kvs generalizing d with
  | nil => rfl
  | cons e rest ih =>
    simp only [List.foldl_cons, ih, add_refines, List.reverse_cons, List.find?_append, List.find?_cons, List.find?_nil]
    by_cases he : e.1 = k
    · simp [he]
    · have : ¬ k = e.1 := fun h => he h.symm
      simp [he, this]

theorem foldl_add_const_get (ks : List κ) (c : ν) (d : GoMap κ ν) (k : κ) :
    (ks.foldl (fun d a => dictAdd d a c) d).get? k = if k ∈ ks then some c else d.get? k := by
  induction ks generalizing d with
  | nil => rfl
  | cons a rest ih =>
    simp only [List.foldl_cons, ih, add_refines, List.mem_cons]
    by_cases h1 : k ∈ rest <;> by_cases h2 : k = a <;> simp [h1, h2]

theorem reachable_wf (adds : List (κ × ν)) : (dictToDict adds).WF :=
  foldl_add_wf adds _ List.nodup_nil

/-- ContainsKey / TryFind / Item reflect exactly the abstract map -/
theorem containsKey_refines (d : GoMap κ ν) (k : κ) : dictContainsKey d k = (d.get? k).isSome := rfl
theorem tryFind_refines [Inhabited ν] (d : GoMap κ ν) (k : κ) :
    dictTryFind d k = match d.get? k with | some v => (v, true) | none => (default, false) := rfl
/-- `Item` on a missing key is the zero value (not a failure) -/
theorem item_refines [Inhabited ν] (d : GoMap κ ν) (k : κ) : dictItem d k = (d.get? k).getD default := rfl

theorem get?_eq_some_iff (d : GoMap κ ν) (wf : d.WF) (k : κ) (v : ν) : d.get? k = some v ↔ (k, v) ∈ d := by
  induction d with
  | nil => exact iff_of_false nofun nofun
  | cons e rest ih =>
    obtain ⟨hnot, wf⟩ := List.nodup_cons.mp wf
    rw [GoMap.get?, List.find?_cons, List.mem_cons]
    by_cases he : e.1 = k
    · have : (k, v) ∉ rest := fun h => hnot (List.mem_map.mpr ⟨_, h, he.symm⟩)
      rw [decide_eq_true he, or_iff_left this, Option.map_some, Option.some.injEq, ← he]
      exact ⟨fun h => h ▸ rfl, fun h => h ▸ rfl⟩
    · rw [decide_eq_false he, or_iff_right fun (h : (k, v) = e) => he (h ▸ rfl)]
      exact ih wf

/-- KVs / Keys / Values enumerate each entry exactly once, whatever order the Go map yields -/
theorem kvs_enumerates (π : List (κ × ν) → List (κ × ν)) (hπ : ∀ l, (π l).Perm l) (d : GoMap κ ν) (wf : d.WF)
    (k : κ) (v : ν) : (k, v) ∈ dictKVs π d ↔ d.get? k = some v := by
  rw [get?_eq_some_iff d wf]; exact (hπ d).mem_iff

theorem keys_nodup (π : List (κ × ν) → List (κ × ν)) (hπ : ∀ l, (π l).Perm l) (d : GoMap κ ν) (wf : d.WF) :
    (dictKeys π d).Nodup := ((hπ d).map _).nodup_iff.mpr wf

theorem mem_dictKeys (π : List (κ × ν) → List (κ × ν)) (hπ : ∀ l, (π l).Perm l) (d : GoMap κ ν) (k : κ) :
    k ∈ dictKeys π d ↔ k ∈ d.map (·.1) := ((hπ d).map _).mem_iff

theorem keys_enumerates (π : List (κ × ν) → List (κ × ν)) (hπ : ∀ l, (π l).Perm l) (d : GoMap κ ν) (wf : d.WF)
    (k : κ) : k ∈ dictKeys π d ↔ (d.get? k).isSome := by
  rw [mem_dictKeys π hπ, GoMap.get?, Option.isSome_map, List.find?_isSome]
  simp

theorem values_perm (π : List (κ × ν) → List (κ × ν)) (hπ : ∀ l, (π l).Perm l) (d : GoMap κ ν) :
    (dictValues π d).Perm (d.map (·.2)) := (hπ d).map _

theorem kvs_length (π : List (κ × ν) → List (κ × ν)) (hπ : ∀ l, (π l).Perm l) (d : GoMap κ ν) :
    (dictKVs π d).length = d.length := (hπ d).length_eq

theorem toDict_last (ss : List (κ × ν)) (k : κ) :
    (dictToDict ss).get? k = (ss.reverse.find? (fun e => decide (e.1 = k))).map (·.2) :=
  (foldl_add_get ss dictNew k).trans Option.or_none

end dict

section strings
variable {α : Type} [DecidableEq α]

theorem concat_cons (sep s : List α) {rest : List (List α)} (h : rest ≠ []) :
    Concat sep (s :: rest) = s ++ sep ++ Concat sep rest := by
  obtain ⟨r, rs, rfl⟩ := List.exists_cons_of_ne_nil h
  simp [Concat, List.append_assoc]

/-- the characterisation of `Index`: a hit at `m` splits `s` around `sep` -/
theorem goIndex_some (sep : List α) : ∀ (s : List α) (m : Nat), goIndex sep s = some m →
    s = s.take m ++ sep ++ s.drop (m + sep.length) := by
  intro s
  induction s with
  | nil =>
    intro m h
    simp only [goIndex] at h
    split at h
    · rename_i hs; subst hs; cases h; simp
    · cases h
  | cons x xs ih =>
    intro m h
    simp only [goIndex] at h
    split at h
    · rename_i hp
      cases h
      obtain ⟨t, ht⟩ := List.isPrefixOf_iff_prefix.mp hp
      rw [← ht]; simp
    · cases hi : goIndex sep xs with
      | none => rw [hi] at h; cases h
      | some j =>
        rw [hi] at h; simp at h; subst h
        have := ih j hi
        simp only [List.take_succ_cons, List.cons_append, Nat.add_right_comm j 1, List.drop_succ_cons]
        congr 1

theorem goSplitLoop_ne_nil (sep : List α) (fuel k : Nat) (s : List α) : goSplitLoop sep fuel k s ≠ [] := by
  match fuel, k with
  | 0, _ | _ + 1, 0 => exact List.cons_ne_nil _ _
  | f + 1, k + 1 =>
    rw [goSplitLoop]
    split <;> exact List.cons_ne_nil _ _

theorem goSplitLoop_join (sep : List α) : ∀ (fuel k : Nat) (s : List α),
    Concat sep (goSplitLoop sep fuel k s) = s
  | 0, _, _ | _ + 1, 0, _ => by simp [goSplitLoop, Concat]
  | f + 1, k + 1, s => by
    simp only [goSplitLoop]
    cases hi : goIndex sep s with
    | none => rfl
    | some m =>
      show Concat sep (s.take m :: goSplitLoop sep f k (s.drop (m + sep.length))) = s
      rw [concat_cons _ _ (goSplitLoop_ne_nil _ _ _ _), goSplitLoop_join sep f k, ← goIndex_some sep s m hi]

theorem concat_explode (s : List α) (n : Int) (hn : n ≠ 0) : Concat [] (goExplode s n) = s := by
  have join : ∀ (l t : List α), Concat [] (l.map (fun c => [c]) ++ [t]) = l ++ t := by
    intro l t
    induction l with
    | nil => rfl
    | cons y ys ih =>
      rw [List.map_cons, List.cons_append, concat_cons _ _ (by simp), ih]
      rfl
  simp only [goExplode]
  generalize hc : (if n < 0 ∨ n > (s.length : Int) then s.length else n.toNat) = c
  split
  · next h0 =>
    -- no piece at all: only the empty string is exploded into nothing
    have : s = [] := by
      subst h0
      split at hc
      · exact List.eq_nil_of_length_eq_zero hc
      · omega
    subst this
    rfl
  · rw [join, List.take_append_drop]

/-- for any separator, the empty one included -/
theorem concat_splitN' (sep s : List α) (n : Int) (hn : n ≠ 0) : Concat sep (SplitN n sep s) = s := by
  simp only [SplitN, goSplitN, hn, if_false]
  split
  · next h =>
    subst h
    exact concat_explode s n hn
  · exact goSplitLoop_join sep _ _ s

theorem concat_split (sep s : List α) (hsep : sep ≠ []) : Concat sep (Split sep s) = s :=
  concat_splitN' sep s (-1) (by decide)

theorem concat_splitN (sep s : List α) (n : Int) (hsep : sep ≠ []) (hn : n ≠ 0) :
    Concat sep (SplitN n sep s) = s :=
  concat_splitN' sep s n hn

/-- empty separator: the string is exploded into its characters, and joining gives it back -/
theorem concat_split_empty (s : List α) : Concat [] (Split [] s) = s :=
  concat_splitN' [] s (-1) (by decide)

/-- `SplitN 2 sep s`: cut at the first occurrence only (the form build_sample_md relies on) -/
theorem splitN2 (sep s : List α) (hsep : sep ≠ []) :
    SplitN 2 sep s = match goIndex sep s with
      | none => [s]
      | some m => [s.take m, s.drop (m + sep.length)] := by
  cases s with
  | nil => simp [SplitN, goSplitN, hsep, goSplitLoop, goIndex]
  | cons x xs =>
    -- one cut, whatever the length
    have : min (Int.toNat 2) ((x :: xs).length + 1) - 1 = 1 := by simp
    simp only [SplitN, goSplitN, hsep, if_false, this, show ¬ (2 : Int) = 0 by decide, show ¬ (2 : Int) < 0 by decide]
    rw [List.length_cons, goSplitLoop]
    cases goIndex sep (x :: xs) with
    | none => rfl
    | some m => cases xs <;> rfl

theorem hasPrefix_iff (p s : List α) : HasPrefix p s = true ↔ ∃ t, s = p ++ t :=
  List.isPrefixOf_iff_prefix.trans (exists_congr fun _ => eq_comm)

theorem hasSuffix_iff (suf s : List α) : HasSuffix suf s = true ↔ ∃ t, s = t ++ suf :=
  List.isSuffixOf_iff_suffix.trans (exists_congr fun _ => eq_comm)

theorem trimSuffix_append (suf t : List α) : TrimSuffix suf (t ++ suf) = t := by
  have : suf.isSuffixOf (t ++ suf) = true := List.isSuffixOf_iff_suffix.mpr ⟨t, rfl⟩
  simp [TrimSuffix, goTrimSuffix, this]

theorem trimSuffix_no_suffix (suf s : List α) (h : HasSuffix suf s = false) : TrimSuffix suf s = s := by
  simp only [HasSuffix, goHasSuffix] at h
  simp [TrimSuffix, goTrimSuffix, h]

/-- argument order: the thing being decorated comes last -/
theorem encloseWith_spec (b e c : List α) : EncloseWith b e c = b ++ c ++ e := rfl
theorem appendHead_spec (hd s : List α) : AppendHead hd s = hd ++ s := rfl
theorem appendTail_spec (tl s : List α) : AppendTail tl s = s ++ tl := rfl
theorem length_spec (s : List α) : Length s = (s.length : Int) := rfl
theorem isEmpty_spec (s : List α) : IsEmpty s = true ↔ s = [] := by simp [IsEmpty]
theorem isNotEmpty_spec (s : List α) : IsNotEmpty s = !IsEmpty s := rfl
theorem concat_spec (sep : List α) (ss : List (List α)) : Concat sep ss = List.intercalate sep ss := by
  induction ss with
  | nil => rfl
  | cons s rest ih =>
    cases rest with
    | nil => simp [Concat, List.intercalate]
    | cons r rs =>
      rw [concat_cons _ _ (List.cons_ne_nil r rs), ih]
      simp [List.intercalate, List.intersperse]

end strings

/-! ## buf: writes accumulate in order -/
theorem buf_accumulates {α : Type} (ws : List (List α)) :
    bufString (ws.foldl bufWrite bufNew) = ws.flatten := by
  have : ∀ b : Buffer α, ws.foldl bufWrite b = b ++ ws.flatten := by
    induction ws with
    | nil => intro b; simp
    | cons w rest ih => intro b; simp [ih, bufWrite, List.append_assoc]
  simp [bufString, this, bufNew]

section frt
variable {α β γ : Type}
theorem pipe_spec (x : α) (f : α → β) : Pipe x f = f x := rfl
/-- exactly the taken thunk runs (the trace and the value are the thunk's) -/
theorem ifElse_true (t f : Unit → Tr α) : IfElse true t f = t () := rfl
theorem ifElse_false (t f : Unit → Tr α) : IfElse false t f = f () := rfl
theorem ifElseUnit_true (t f : Unit → Tr Unit) : IfElseUnit true t f = t () := rfl
theorem ifElseUnit_false (t f : Unit → Tr Unit) : IfElseUnit false t f = f () := rfl
theorem ifOnly_true (t : Unit → Tr Unit) : IfOnly true t = t () := rfl
/-- no branch runs: empty trace -/
theorem ifOnly_false (t : Unit → Tr Unit) : IfOnly false t = ([], ()) := rfl
theorem fst_new (a : α) (b : β) : Fst (NewTuple2 a b) = a := rfl
theorem snd_new (a : α) (b : β) : Snd (NewTuple2 a b) = b := rfl
theorem new_fst_snd (t : Tuple2 α β) : NewTuple2 (Fst t) (Snd t) = t := rfl
theorem destr2_new (a : α) (b : β) : Destr2 (NewTuple2 a b) = (a, b) := rfl
theorem destr3_new (a : α) (b : β) (c : γ) : Destr3 (NewTuple3 a b c) = (a, b, c) := rfl
theorem new_destr3 (t : Tuple3 α β γ) : NewTuple3 (Destr3 t).1 (Destr3 t).2.1 (Destr3 t).2.2 = t := rfl
end frt

/-- the kind switch as it was before fix a41e038: unsigned kinds were sent to `Value.Int` -/
def unfixedArms : List (List String × String) := [
  (["Int", "Int8", "Int16", "Int32", "Int64", "Uint", "Uint8", "Uint16", "Uint32", "Uint64", "Uintptr"], "Int"),
  (["Float32", "Float64"], "Float"), (["String"], "String")]

/-- witness: with the unfixed switch `toS` panics on `uint` -/
theorem toS_unfixed_panics : accessorOK (armOf unfixedArms "%v" "Uint") (kindClass "Uint") = false := by decide

/-- non-vacuity: a reachable dictionary with an overwritten key -/
example : (dictToDict [(1, "a"), (2, "b"), (1, "c")]).get? 1 = some "c" ∧
    (dictToDict [(1, "a"), (2, "b"), (1, "c")] : GoMap Nat String).length = 2 := by decide

example : Split [','] ['a', ',', ',', 'b'] = [['a'], [], ['b']] := by decide

end Folang.Props.C14
