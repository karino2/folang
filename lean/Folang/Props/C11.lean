import Folang.Lemmas.Literal
/-
C11 — string, raw-string and interpolated literals denote exactly their text.

A literal body is a list of pieces (`Seg`): ordinary bytes (any byte value, so multi-byte UTF-8 is
just several bytes), the escapes \n \t \\ \" , the brace escapes \{ \} , holes {name}.
For EVERY body made of well-formed pieces, every tail after the closing quote and every display
function `env` for the holes, the four theorems follow the literal through the whole pipeline
(fc scanner → ParseSInterP → emitted Go string literal → Go's unquoting → fmt.Sprintf) and show the
result is `denote env body`:
  C11_plain, C11_raw, C11_interp, C11_interp_raw.
`unfixed_*` are the witnesses for the code before fix 20818f3.
-/
namespace Folang.Props.C11
open Folang.Literal

theorem src_cons (s : Seg) (segs : List Seg) : src (s :: segs) = s.src ++ src segs := by simp [src]
theorem denote_cons (env : Bytes → Bytes) (s : Seg) (segs : List Seg) :
    denote env (s :: segs) = s.denote env ++ denote env segs := by simp [denote]

theorem scanStr_body (interp : Bool) (segs : List Seg) (wf : ∀ s ∈ segs, WFdq interp s) (rest : Bytes) :
    scanStr (src segs ++ DQ :: rest) = .ok (segs.flatMap i1dq, rest) := by
  induction segs with
  | nil => simp [src, scanStr_dq]
  | cons s segs ih =>
    rw [src_cons, List.append_assoc, L1dq interp s (wf s List.mem_cons_self), ih (fun x hx => wf x (List.mem_cons_of_mem _ hx))]
    simp [pre]

theorem scanRaw_body (interp : Bool) (segs : List Seg) (wf : ∀ s ∈ segs, WFraw interp s) (rest : Bytes) :
    scanRaw (src segs ++ BT :: rest) = .ok (segs.flatMap i1raw, rest) := by
  induction segs with
  | nil => simp [src, scanRaw_bt]
  | cons s segs ih =>
    rw [src_cons, List.append_assoc, L1raw interp s (wf s List.mem_cons_self), ih (fun x hx => wf x (List.mem_cons_of_mem _ hx))]
    simp [pre]

theorem goUnquote_body (a b : Seg → Bytes) (segs : List Seg)
    (h : ∀ s ∈ segs, ∀ tail, goUnquote (a s ++ tail) = (goUnquote tail).map (b s ++ ·)) :
    goUnquote (segs.flatMap a) = some (segs.flatMap b) := by
  induction segs with
  | nil => rfl
  | cons s segs ih =>
    rw [List.flatMap_cons, h s List.mem_cons_self, ih fun x hx => h x (List.mem_cons_of_mem _ hx)]
    rfl

/-- **"..."**: the emitted Go literal `"<token text>"` evaluates to the denoted text -/
theorem C11_plain (env : Bytes → Bytes) (segs : List Seg) (wf : ∀ s ∈ segs, WFdq false s) (rest : Bytes) :
    ∃ v, scanStr (src segs ++ DQ :: rest) = .ok (v, rest) ∧ goUnquote v = some (denote env segs) :=
  ⟨_, scanStr_body false segs wf rest,
    goUnquote_body i1dq (Seg.denote env) segs fun s hs => L3plain_dq env s (wf s hs)⟩

/-- **`...`**: exactly the bytes between the backticks -/
theorem C11_raw (env : Bytes → Bytes) (segs : List Seg) (wf : ∀ s ∈ segs, WFraw false s) (rest : Bytes) :
    ∃ v, scanRaw (src segs ++ BT :: rest) = .ok (v, rest) ∧ goUnquote v = some (denote env segs) :=
  ⟨_, scanRaw_body false segs wf rest,
    goUnquote_body i1raw (Seg.denote env) segs fun s hs => L3plain_raw env s (wf s hs)⟩

/-- a raw body made of plain bytes denotes itself -/
theorem raw_denotes_itself (env : Bytes → Bytes) (body : Bytes) : denote env (body.map Seg.lit) = body := by
  induction body with
  | nil => rfl
  | cons b rest ih => rw [List.map_cons, denote_cons, ih]; rfl

theorem holes_eq (segs : List Seg) : holes segs = segs.flatMap holesOf := by
  induction segs with
  | nil => rfl
  | cons s segs ih => cases s <;> simp [holes, holesOf, ih]

/-- stages 2–4 over a whole body, given the stage-1 image and the per-piece lemmas -/
theorem interp_tail (env : Bytes → Bytes) (i1 i2 : Seg → Bytes) (segs : List Seg)
    (wfOr : ∀ s ∈ segs, WFdq true s ∨ WFraw true s)
    (h2 : ∀ s ∈ segs, ∀ f tail, parseInterp (f + 1) (i1 s ++ tail) = pre2 (i2 s) (holesOf s) (parseInterp f tail))
    (h3 : ∀ s ∈ segs, ∀ tail, goUnquote (i2 s ++ tail) = (goUnquote tail).map (i3 s ++ ·)) :
    parseInterp (segs.length + 1) (segs.flatMap i1) = .ok (segs.flatMap i2, holes segs) ∧
    goUnquote (segs.flatMap i2) = some (segs.flatMap i3) ∧
    sprintf (segs.flatMap i3) ((holes segs).map env) = some (denote env segs) := by
  induction segs with
  | nil => exact ⟨rfl, rfl, rfl⟩
  | cons s segs ih =>
    obtain ⟨ih2, -, ih4⟩ := ih (fun x hx => wfOr x (List.mem_cons_of_mem _ hx))
      (fun x hx => h2 x (List.mem_cons_of_mem _ hx)) (fun x hx => h3 x (List.mem_cons_of_mem _ hx))
    refine ⟨?_, goUnquote_body i2 i3 _ h3, ?_⟩
    · rw [List.flatMap_cons, List.length_cons, h2 s List.mem_cons_self, ih2, holes_eq]
      simp [pre2, holes_eq]
    · have := L4 env s (wfOr s List.mem_cons_self) (segs.flatMap i3) ((holes segs).map env)
      rw [List.flatMap_cons, holes_eq, List.flatMap_cons, List.map_append, ← holes_eq, this, ih4, denote_cons]; rfl

/-- **$"..."**: token text → (format, hole names) → Go literal → Sprintf gives the denoted text, with
the holes filled, in order, by the display strings of the named values -/
theorem C11_interp (env : Bytes → Bytes) (segs : List Seg) (wf : ∀ s ∈ segs, WFdq true s) (rest : Bytes) :
    ∃ v fmt f2, scanStr (src segs ++ DQ :: rest) = .ok (v, rest) ∧
      parseInterp (segs.length + 1) v = .ok (fmt, holes segs) ∧
      goUnquote fmt = some f2 ∧ sprintf f2 ((holes segs).map env) = some (denote env segs) := by
  obtain ⟨h2, h3, h4⟩ := interp_tail env i1dq i2dq segs (fun s hs => .inl (wf s hs))
    (fun s hs f tail => L2dq s (wf s hs) f tail) (fun s hs tail => L3dq s (wf s hs) tail)
  exact ⟨_, _, _, scanStr_body true segs wf rest, h2, h3, h4⟩

theorem C11_interp_raw (env : Bytes → Bytes) (segs : List Seg) (wf : ∀ s ∈ segs, WFraw true s) (rest : Bytes) :
    ∃ v fmt f2, scanRaw (src segs ++ BT :: rest) = .ok (v, rest) ∧
      parseInterp (segs.length + 1) v = .ok (fmt, holes segs) ∧
      goUnquote fmt = some f2 ∧ sprintf f2 ((holes segs).map env) = some (denote env segs) := by
  obtain ⟨h2, h3, h4⟩ := interp_tail env i1raw i2raw segs (fun s hs => .inr (wf s hs))
    (fun s hs f tail => L2raw s (wf s hs) f tail) (fun s hs tail => L3raw s (wf s hs) tail)
  exact ⟨_, _, _, scanRaw_body true segs wf rest, h2, h3, h4⟩

/-! ### witnesses: the code before fix 20818f3 -/

/-- ParseSInterP as it was: `%` and `\{` `\}` passed through -/
def parseInterpUnfixed : (fuel : Nat) → Bytes → Except Err (Bytes × List Bytes)
  | 0, _ => .error .index
  | _ + 1, [] => .ok ([], [])
  | fuel + 1, c :: rest =>
    if c = BS then
      match rest with
      | [] => .error .escapeAtEnd
      | c2 :: rest' => pre2 [BS, c2] [] (parseInterpUnfixed fuel rest')
    else if c = LBR then
      match takeName rest with
      | .error e => .error e
      | .ok (name, rest') => pre2 [PC, Ls] [name] (parseInterpUnfixed fuel rest')
    else pre2 [c] [] (parseInterpUnfixed fuel rest)

/-- `$"100% {n}"` with n displayed as "5": the old format "100% %s" is not a %s/%% format -/
theorem unfixed_percent :
    let body : Bytes := [49, 48, 48, 37, 32, 123, 110, 125]
    ∃ fmt vs, parseInterpUnfixed 20 body = .ok (fmt, vs) ∧ sprintf fmt [[53]] = none := by
  refine ⟨[49, 48, 48, 37, 32, 37, 115], [[110]], by rfl, by decide⟩

/-- `$"\{x\}"`: the old format contains `\{`, which Go rejects -/
theorem unfixed_brace_escape :
    let body : Bytes := [92, 123, 120, 92, 125]
    ∃ fmt vs, parseInterpUnfixed 20 body = .ok (fmt, vs) ∧ goUnquote fmt = none := by
  refine ⟨[92, 123, 120, 92, 125], [], by rfl, by decide⟩

/-- non-vacuity: `$"a%\{{n}\}\n"` is a well-formed body with every kind of piece -/
example : ∀ s ∈ [Seg.lit 97, .lit PC, .brace LBR, .hole [110], .brace RBR, .esc Ln], WFdq true s := by
  intro s hs
  simp only [List.mem_cons, List.mem_nil_iff, or_false] at hs
  rcases hs with h | h | h | h | h | h <;> subst h <;> simp [WFdq, LBR, RBR, PC, DQ, BS, Ln, identByte]

end Folang.Props.C11
