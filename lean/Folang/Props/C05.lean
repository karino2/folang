import Folang.Model.Determinism
import Folang.Props.C09
/-
C05 — transpilation is deterministic.

For each of the seven consumers of a dictionary enumeration in fc the result, as the rest of the
compiler observes it (the dictionary as a finite map; the accept/reject decision; the chosen record),
is proved independent of the enumeration order: `∀ π π'` permutations.  The inventory of enumeration
sites is regenerated from the source on every run (C05Facts.lean); a new site has no lemma here.
The composition step (order-independent consumers ⇒ the same output) is `C05Compose.run_deterministic`; it is
tied by running the compiler against a dictionary package that returns adversarial permutations.
-/
set_option linter.unusedSectionVars false
namespace Folang.Props.C05
open Folang.Determinism Folang.Lib Folang.Props.C14

variable {κ ν : Type} [DecidableEq κ]

/-- what a sequence of Add leaves in the dictionary -/
theorem addAll_get (d : GoMap κ ν) (kvs : List (κ × ν)) (k : κ) :
    (addAll d kvs).get? k = ((kvs.reverse.find? (fun e => decide (e.1 = k))).map (·.2)).or (d.get? k) :=
  foldl_add_get kvs d k

/-- adding the same value under a set of keys: only membership matters -/
theorem addAll_const_get (d : GoMap κ ν) (ks : List κ) (c : ν) (k : κ) :
    (addAll d (ks.map (fun x => (x, c)))).get? k = if k ∈ ks then some c else d.get? k := by
  simp only [addAll, List.foldl_map, foldl_add_const_get]

theorem eqsUnion_order_indep (π1 π2 π1' π2' : List (κ × Bool) → List (κ × Bool))
    (h1 : ∀ l, (π1 l).Perm l) (h2 : ∀ l, (π2 l).Perm l) (h1' : ∀ l, (π1' l).Perm l) (h2' : ∀ l, (π2' l).Perm l)
    (es1 es2 : GoMap κ Bool) (k : κ) :
    (eqsUnion π1 π2 es1 es2).get? k = (eqsUnion π1' π2' es1 es2).get? k := by
  simp only [eqsUnion, addAll_const_get, mem_dictKeys _ h1, mem_dictKeys _ h2,
    mem_dictKeys _ h1', mem_dictKeys _ h2']

theorem rsRegisterNewEI_order_indep {ι : Type} (π π' : List (κ × Bool) → List (κ × Bool))
    (h : ∀ l, (π l).Perm l) (h' : ∀ l, (π' l).Perm l) (res : GoMap κ ι) (eset : GoMap κ Bool) (ei : ι) (k : κ) :
    (rsRegisterNewEI π res eset ei).get? k = (rsRegisterNewEI π' res eset ei).get? k := by
  simp only [rsRegisterNewEI, addAll_const_get, mem_dictKeys _ h, mem_dictKeys _ h']

/-- lookup in a list without duplicate keys does not depend on the order of the list -/
theorem find_perm_nodup (l l' : List (κ × ν)) (p : l.Perm l') (nd : (l.map (·.1)).Nodup) (k : κ) :
    (l.find? (fun e => decide (e.1 = k))).map (·.2) = (l'.find? (fun e => decide (e.1 = k))).map (·.2) :=
  Option.ext fun v => by
    rw [← GoMap.get?, ← GoMap.get?, get?_eq_some_iff l nd, get?_eq_some_iff l' ((p.map _).nodup_iff.mp nd), p.mem_iff]

theorem addAll_perm (d : GoMap κ ν) (kvs kvs' : List (κ × ν)) (p : kvs.Perm kvs')
    (nd : (kvs.map (·.1)).Nodup) (k : κ) : (addAll d kvs).get? k = (addAll d kvs').get? k := by
  have pr : kvs.reverse.Perm kvs'.reverse := (List.reverse_perm _).trans (p.trans (List.reverse_perm _).symm)
  have ndr : (kvs.reverse.map (·.1)).Nodup := ((List.reverse_perm _).map _).nodup_iff.mpr nd
  rw [addAll_get, addAll_get, find_perm_nodup _ _ pr ndr]

/-- **piRegAll** is order independent when the qualified names are distinct (`full` injective on the
entries of a dictionary, whose keys are distinct) -/
theorem piRegAll_order_indep {ν' : Type} (π π' : List (κ × ν) → List (κ × ν))
    (h : ∀ l, (π l).Perm l) (h' : ∀ l, (π' l).Perm l) (full : κ → κ) (hfull : Function.Injective full)
    (gen : ν → ν') (scope : GoMap κ ν') (info : GoMap κ ν) (wf : info.WF) (k : κ) :
    (piRegAll π full gen scope info).get? k = (piRegAll π' full gen scope info).get? k := by
  refine addAll_perm scope _ _ (((h info).trans (h' info).symm).map _) ?_ k
  have nd : ((π info).map (·.1)).Nodup := ((h info).map _).nodup_iff.mpr wf
  have ndf : (((π info).map (·.1)).map full).Nodup :=
    List.Pairwise.map full (fun a b hab hfab => hab (hfull hfab)) nd
  rw [List.map_map] at ndf ⊢
  exact ndf

/-- **exaustiveCheck**: the accept/reject decision is order independent (the named case need not be) -/
theorem exhaustive_decision_order_indep (π π' : List (String × Bool) → List (String × Bool))
    (h : ∀ l, (π l).Perm l) (h' : ∀ l, (π' l).Perm l) (cases arms : List String) (dflt : Bool) :
    Folang.Exhaust.accepts π cases arms dflt = Folang.Exhaust.accepts π' cases arms dflt :=
  Bool.eq_iff_iff.mpr ((Folang.Props.C09.accept_iff π h cases arms dflt).trans
    (Folang.Props.C09.accept_iff π' h' cases arms dflt).symm)

/-- **scLookupRecFacCur** (after fix 5aa1ab1): with a sorter that returns THE ascending arrangement by
name — unique because record names (the dictionary keys) are distinct — the chosen record does not
depend on the enumeration order -/
theorem lookupRecFac_order_indep {ρ : Type} (π π' : List (κ × ρ) → List (κ × ρ))
    (h : ∀ l, (π l).Perm l) (h' : ∀ l, (π' l).Perm l)
    (srt : List ρ → List ρ) (hsrt : ∀ l l' : List ρ, l.Perm l' → srt l = srt l')
    (isMatch : ρ → Bool) (m : GoMap κ ρ) :
    lookupRecFac π srt isMatch m = lookupRecFac π' srt isMatch m := by
  unfold lookupRecFac dictValues
  rw [hsrt _ _ ((((h m).trans (h' m).symm).map _).filter _)]

/-- the hypothesis `hsrt` holds for every sorter that returns a strictly ascending permutation:
two strictly ascending permutations of each other are equal -/
theorem strict_sorted_perm_unique {ρ : Type} (lt : ρ → ρ → Prop) (hasym : ∀ a b, lt a b → lt b a → False)
    (l l' : List ρ) (p : l.Perm l') (s : l.Pairwise lt) (s' : l'.Pairwise lt) : l = l' :=
  List.Perm.eq_of_pairwise (fun a b _ _ hab hba => (hasym a b hab hba).elim) s s' p

/-- witness: before the fix the chosen record depended on the enumeration order
(two records A, B with the same field names; π = identity vs reverse) -/
theorem lookup_unfixed_order_dependent :
    let m : GoMap String String := [("A", "A"), ("B", "B")]
    lookupRecFacUnfixed id (fun _ => true) m = some "A" ∧ lookupRecFacUnfixed List.reverse (fun _ => true) m = some "B" := by
  decide

end Folang.Props.C05
