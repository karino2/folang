import Folang.Model.Prec
/-
C08 — binary operators group by one table and associate to the left.

`climb_spec` : for EVERY chain (any length, any operators, any operands) and every precedence
table, the recursion scheme of `parseBinAfter` (`climb`) consumes the longest prefix whose operators
are not looser than `minPrec` and, when the first of them is not tighter than the root of `lhs`
(always, for an operand), returns exactly the reference grouping `group` of that prefix.
`climb_eq_group` : with `minPrec` not above any rank, that prefix is the whole chain.
`group_flatten`, `group_canon`, `group_of_canon` validate the reference: it contains the operands
and operators of the chain in order, no operator has a strictly looser operator as its left child's
root nor a not-tighter one as its right child's root (= grouping by rank, left-associative), and it
is the only tree over the chain of which that holds.
-/
namespace Folang.Props.C08
open Folang.Prec
variable {α : Type} (prec : Nat → Nat)

/-- `op` is not tighter than the operator at the root of the tree, so that inserting `op` makes it the
new root (`insert_of_rootOK`); operands count as infinitely tight -/
def rootOK (op : Nat) : G α → Prop
  | .atom _ => True
  | .bin op' _ _ => prec op ≤ prec op'

theorem group_append (t : G α) (c1 c2 : List (Nat × α)) :
    group prec t (c1 ++ c2) = group prec (group prec t c1) c2 := by
  simp [group, List.foldl_append]

theorem group_cons (t : G α) (e : Nat × α) (c : List (Nat × α)) :
    group prec t (e :: c) = group prec (Prec.insert prec t e.1 e.2) c := rfl

theorem insert_of_rootOK {op : Nat} {t : G α} (h : rootOK prec op t) (b : α) :
    Prec.insert prec t op b = .bin op t (.atom b) := by
  cases t with
  | atom x => rfl
  | bin op' l r => exact if_neg (Nat.not_lt.2 h)

theorem group_bin_tighter (op : Nat) (l r : G α) (c : List (Nat × α))
    (h : ∀ e ∈ c, prec op < prec e.1) :
    group prec (.bin op l r) c = .bin op l (group prec r c) := by
  induction c generalizing r with
  | nil => rfl
  | cons e rest ih =>
    rw [group_cons, group_cons, Prec.insert, if_pos (h e List.mem_cons_self)]
    exact ih _ (fun x hx => h x (List.mem_cons_of_mem _ hx))

theorem climb_nil (f m : Nat) (lhs : G α) : climb prec f m lhs [] = (lhs, []) := by
  cases f <;> rfl

theorem climb_stop {op m : Nat} (h : prec op < m) (f : Nat) (lhs : G α) (a : α) (rest : List (Nat × α)) :
    climb prec (f + 1) m lhs ((op, a) :: rest) = (lhs, (op, a) :: rest) := by
  simp only [climb, h, if_true]

theorem climb_take {op m : Nat} (h : ¬ prec op < m) (f : Nat) (lhs : G α) (a : α) (rest : List (Nat × α)) :
    climb prec (f + 1) m lhs ((op, a) :: rest) =
      climb prec f m (.bin op lhs (climb prec f (prec op + 1) (.atom a) rest).1)
        (climb prec f (prec op + 1) (.atom a) rest).2 := by
  simp only [climb, h, if_false]

theorem climb_suffix (f m : Nat) (lhs : G α) (rest : List (Nat × α)) :
    (climb prec f m lhs rest).2 <:+ rest := by
  fun_induction climb prec f m lhs rest with
  | case1 | case2 | case3 => exact List.suffix_refl _
  | case4 f m lhs op a rest h rhs rest' hr ih1 ih2 =>
    rw [hr] at ih1
    exact ih2.trans (ih1.trans (List.suffix_cons _ _))

theorem climb_fuel : ∀ (f1 f2 m : Nat) (lhs : G α) (rest : List (Nat × α)), rest.length < f1 → rest.length < f2 →
    climb prec f1 m lhs rest = climb prec f2 m lhs rest := by
  intro f1
  induction f1 with
  | zero =>
    intro f2 m lhs rest h
    exact absurd h (Nat.not_lt_zero _)
  | succ f1 ih =>
    intro f2 m lhs rest h1 h2
    match f2, rest with
    | _, [] => rw [climb_nil, climb_nil]
    | f2 + 1, (op, a) :: rest =>
      have h1 : rest.length < f1 := Nat.lt_of_succ_lt_succ h1
      have h2 : rest.length < f2 := Nat.lt_of_succ_lt_succ h2
      by_cases hlt : prec op < m
      · rw [climb_stop prec hlt, climb_stop prec hlt]
      · have hlen := (climb_suffix prec f2 (prec op + 1) (.atom a) rest).length_le
        rw [climb_take prec hlt, climb_take prec hlt, ih f2 (prec op + 1) (.atom a) rest h1 h2]
        exact ih f2 m _ _ (Nat.lt_of_le_of_lt hlen h1) (Nat.lt_of_le_of_lt hlen h2)

/-- what `climb` returns: a split of the chain and the grouping of the consumed part -/
theorem climb_spec : ∀ (fuel m : Nat) (lhs : G α) (rest : List (Nat × α)), rest.length < fuel →
    ∃ pre, rest = pre ++ (climb prec fuel m lhs rest).2 ∧
      (∀ e ∈ pre, m ≤ prec e.1) ∧
      (∀ e, (climb prec fuel m lhs rest).2.head? = some e → prec e.1 < m) ∧
      ((∀ e, pre.head? = some e → rootOK prec e.1 lhs) → (climb prec fuel m lhs rest).1 = group prec lhs pre) := by
  intro fuel m lhs rest
  fun_induction climb prec fuel m lhs rest with
  | case1 => exact fun h => absurd h (Nat.not_lt_zero _)
  | case2 => exact fun _ => ⟨[], rfl, nofun, nofun, fun _ => rfl⟩
  | case3 f m lhs op a rest hlt =>
    refine fun _ => ⟨[], rfl, nofun, ?_, fun _ => rfl⟩
    intro e he
    cases he
    exact hlt
  | case4 f m lhs op a rest hlt rhs rest' hr ih1 ih2 =>
    -- `op` is taken.  Its right operand groups the operators `pre1` that follow and are tighter
    -- than `op`; the loop goes on with `pre2`, whose first operator is not tighter than `op`.
    intro hlen
    have hlen : rest.length < f := Nat.lt_of_succ_lt_succ hlen
    have hsuf := climb_suffix prec f (prec op + 1) (.atom a) rest
    rw [hr] at ih1 hsuf
    obtain ⟨pre1, hsplit1, hall1, hstop1, hgrp1⟩ := ih1 hlen
    obtain ⟨pre2, hsplit2, hall2, hstop2, hgrp2⟩ := ih2 (Nat.lt_of_le_of_lt hsuf.length_le hlen)
    refine ⟨(op, a) :: (pre1 ++ pre2), ?_, ?_, hstop2, fun hroot => ?_⟩
    · rw [List.cons_append, List.append_assoc, ← hsplit2, ← hsplit1]
    · intro e he
      rcases List.mem_cons.1 he with rfl | he
      · exact Nat.not_lt.1 hlt
      · rcases List.mem_append.1 he with he | he
        · exact Nat.le_trans (Nat.not_lt.1 hlt) (Nat.le_of_succ_le (hall1 e he))
        · exact hall2 e he
    · have hfirst : ∀ e, pre2.head? = some e → rootOK prec e.1 (.bin op lhs rhs) := by
        intro e he
        refine Nat.le_of_lt_succ (hstop1 e ?_)
        rw [hsplit2]
        cases pre2 with
        | nil => cases he
        | cons _ _ => exact he
      have hR : rhs = group prec (.atom a) pre1 := hgrp1 (fun _ _ => trivial)
      rw [hgrp2 hfirst, hR, group_cons, insert_of_rootOK prec (hroot _ rfl), group_append,
        group_bin_tighter prec op lhs (.atom a) pre1 (fun e he => hall1 e he)]

/-- **C08 (chain level).** With `minPrec` below every rank, the whole chain is consumed and the
result is the reference grouping. -/
theorem climb_eq_group (a0 : α) (chain : List (Nat × α)) (m : Nat) (hm : ∀ e ∈ chain, m ≤ prec e.1) :
    climb prec (chain.length + 1) m (.atom a0) chain = (group prec (.atom a0) chain, []) := by
  obtain ⟨pre, hsplit, _, hstop, hgrp⟩ := climb_spec prec (chain.length + 1) m (.atom a0) chain (Nat.lt_succ_self _)
  -- nothing is left: the first operator left would be looser than `m`
  have hrest : (climb prec (chain.length + 1) m (.atom a0) chain).2 = [] := by
    match h : (climb prec (chain.length + 1) m (.atom a0) chain).2 with
    | [] => rfl
    | e :: r =>
      have h1 := hstop e (by rw [h]; rfl)
      have h2 := hm e (by rw [hsplit, h]; exact List.mem_append_right _ List.mem_cons_self)
      exact absurd h1 (Nat.not_lt.2 h2)
  rw [hrest, List.append_nil] at hsplit
  exact Prod.ext (by rw [hgrp (fun _ _ => trivial), ← hsplit]) hrest

/-- in-order operands and operators of a tree -/
def flatten : G α → α × List (Nat × α)
  | .atom a => (a, [])
  | .bin op l r => ((flatten l).1, (flatten l).2 ++ [(op, (flatten r).1)] ++ (flatten r).2)

theorem flatten_insert (t : G α) (op : Nat) (b : α) :
    flatten (Prec.insert prec t op b) = ((flatten t).1, (flatten t).2 ++ [(op, b)]) := by
  induction t with
  | atom a => rfl
  | bin op' l r _ ihr =>
    simp only [Prec.insert]
    split <;> simp [flatten, ihr]

/-- the grouping keeps every operand and operator, in source order -/
theorem group_flatten (t : G α) (chain : List (Nat × α)) :
    flatten (group prec t chain) = ((flatten t).1, (flatten t).2 ++ chain) := by
  induction chain generalizing t with
  | nil => simp [group]
  | cons e rest ih =>
    rw [group_cons, ih, flatten_insert]
    simp

/-- grouped by rank, left-associative: the root of a left child is not looser than its parent, the
root of a right child is strictly tighter -/
def Canon : G α → Prop
  | .atom _ => True
  | .bin op l r => Canon l ∧ Canon r ∧ rootOK prec op l ∧
      (match r with | .atom _ => True | .bin op' _ _ => prec op < prec op')

theorem insert_canon (t : G α) (op : Nat) (b : α) (h : Canon prec t) : Canon prec (Prec.insert prec t op b) := by
  induction t with
  | atom a => simp [Prec.insert, Canon, rootOK]
  | bin op' l r _ ihr =>
    obtain ⟨hl, hr, hlo, hro⟩ := h
    simp only [Prec.insert]
    split
    · rename_i hlt
      refine ⟨hl, ihr hr, hlo, ?_⟩
      cases r with
      | atom x => simp [Prec.insert]; exact hlt
      | bin op2 l2 r2 =>
        by_cases h2 : prec op2 < prec op
        · simp only [Prec.insert, h2, if_true]; exact hro
        · simp only [Prec.insert, h2, if_false]; exact hlt
    · rename_i hge
      exact ⟨⟨hl, hr, hlo, hro⟩, trivial, by simp only [rootOK]; omega, trivial⟩

theorem group_canon (t : G α) (chain : List (Nat × α)) (h : Canon prec t) : Canon prec (group prec t chain) := by
  induction chain generalizing t with
  | nil => exact h
  | cons e rest ih => exact ih _ (insert_canon prec t e.1 e.2 h)

def opsOfG : G α → List Nat
  | .atom _ => []
  | .bin op l r => op :: (opsOfG l ++ opsOfG r)

theorem canon_ops_ge (t : G α) (hc : Canon prec t) (op : Nat) (h : rootOK prec op t) :
    ∀ k ∈ opsOfG t, prec op ≤ prec k := by
  induction t generalizing op with
  | atom a => nofun
  | bin op0 l r ihl ihr =>
    obtain ⟨hl, hr, hlo, hro⟩ := hc
    have hr0 : rootOK prec op0 r := by
      cases r with
      | atom _ => trivial
      | bin _ _ _ => exact Nat.le_of_lt hro
    intro k hk
    simp only [opsOfG, List.mem_cons, List.mem_append] at hk
    rcases hk with rfl | hk | hk
    · exact h
    · exact Nat.le_trans h (ihl hl op0 hlo k hk)
    · exact Nat.le_trans h (ihr hr op0 hr0 k hk)

theorem mem_opsOfG (t : G α) (k : Nat) : k ∈ opsOfG t ↔ k ∈ (flatten t).2.map (·.1) := by
  induction t with
  | atom a => exact ⟨nofun, nofun⟩
  | bin op l r ihl ihr =>
    simp only [opsOfG, flatten, List.mem_cons, List.mem_append, List.map_append, List.map_cons, List.map_nil,
      List.not_mem_nil, or_false, or_assoc, ihl, ihr]
    exact or_left_comm

/-- **a canonical tree is the grouping of its own chain** -/
theorem group_of_canon : ∀ (t : G α), Canon prec t → group prec (.atom (flatten t).1) (flatten t).2 = t := by
  intro t
  induction t with
  | atom a => intro _; simp [flatten, group]
  | bin op l r ihl ihr =>
    intro hc
    obtain ⟨hl, hr, hlo, hro⟩ := hc
    have hall : ∀ e ∈ (flatten r).2, prec op < prec e.1 := by
      intro e he
      have hmem := (mem_opsOfG r e.1).2 (List.mem_map_of_mem he)
      cases r with
      | atom x => cases hmem
      | bin opr rl rr => exact Nat.lt_of_lt_of_le hro (canon_ops_ge prec _ hr opr (Nat.le_refl _) e.1 hmem)
    -- the chain of `l` gives `l` back, `op` becomes its parent, the chain of `r` goes below `op`
    simp only [flatten]
    rw [List.append_assoc, List.singleton_append, group_append, ihl hl, group_cons,
      insert_of_rootOK prec hlo, group_bin_tighter prec op l _ _ hall, ihr hr]

end Folang.Props.C08
