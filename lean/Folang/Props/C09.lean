import Folang.Model.Exhaust
import Folang.Props.C14
/-
C09 — a union match without default is accepted exactly when it covers every case.
All theorems hold for every union (any number of cases), every list of arms in any order (with
repetitions), and EVERY enumeration order π of the coverage dictionary.
-/
namespace Folang.Props.C09
open Folang.Exhaust Folang.Lib Folang.Props.C14

/-- the coverage dictionary of `exaustiveCheck` once the arms are marked -/
abbrev marked (cases arms : List String) : GoMap String Bool :=
  arms.foldl (fun d a => dictAdd d a true) (dictToDict (cases.map (fun c => (c, false))))

theorem marked_get (cases arms : List String) (k : String) :
    (marked cases arms).get? k = if k ∈ arms then some true else if k ∈ cases then some false else none := by
  simp only [marked, dictToDict, List.foldl_map, foldl_add_const_get, new_refines]

theorem marked_wf (cases arms : List String) : (marked cases arms).WF := by
  simpa only [List.foldl_map] using foldl_add_wf (arms.map (·, true)) _ (reachable_wf _)

variable (π : List (String × Bool) → List (String × Bool)) (hπ : ∀ l, (π l).Perm l)
include hπ

/-- `notFounds` holds exactly the cases that no arm names, whatever the enumeration order -/
theorem mem_notFounds (cases arms : List String) (k : String) (b : Bool) :
    (k, b) ∈ (dictKVs π (marked cases arms)).filter (fun p => !p.2) ↔ b = false ∧ k ∈ cases ∧ k ∉ arms := by
  rw [List.mem_filter, kvs_enumerates π hπ _ (marked_wf cases arms), marked_get]
  by_cases hm : k ∈ arms <;> by_cases hc : k ∈ cases <;> cases b <;> simp [hm, hc]

/-- the check passes iff every case of the union is named by an arm -/
theorem exaustiveCheck_accept_iff (cases arms : List String) :
    exaustiveCheck π cases arms = .accept ↔ ∀ c ∈ cases, c ∈ arms := by
  have key := mem_notFounds π hπ cases arms
  simp only [exaustiveCheck]
  split
  next h =>
    rw [h] at key
    refine iff_of_true rfl fun c hc => Decidable.byContradiction fun hm => ?_
    exact List.not_mem_nil ((key c false).mpr ⟨rfl, hc, hm⟩)
  next name b _ h =>
    rw [h] at key
    have hu := (key name b).mp List.mem_cons_self
    exact iff_of_false Verdict.noConfusion fun hall => hu.2.2 (hall _ hu.2.1)

/-- **C09.** accepted iff there is at least one arm and (a default arm follows or every case is named) -/
theorem accept_iff (cases arms : List String) (dflt : Bool) :
    accepts π cases arms dflt = true ↔ arms ≠ [] ∧ (dflt = true ∨ ∀ c ∈ cases, c ∈ arms) := by
  unfold accepts Exhaust.decide
  cases arms with
  | nil => simp
  | cons a rest =>
    cases dflt with
    | true => simp
    | false =>
      simp only [Bool.false_eq_true, if_false, beq_iff_eq, ne_eq, reduceCtorEq, not_false_eq_true, true_and, false_or]
      exact exaustiveCheck_accept_iff π hπ cases (a :: rest)

/-- the diagnostic of a non-exhaustive match names a case of the union that no arm covers,
whatever order the dictionary is enumerated in -/
theorem diag_names_uncovered (cases arms : List String) (msg : String)
    (h : exaustiveCheck π cases arms = .reject msg) :
    ∃ c ∈ cases, c ∉ arms ∧ msg = "match does not cover all cases. Can't find case: " ++ c ++ "." := by
  have key := mem_notFounds π hπ cases arms
  simp only [exaustiveCheck] at h
  split at h
  next => cases h
  next name b _ hnf =>
    rw [hnf] at key
    have hu := (key name b).mp List.mem_cons_self
    exact ⟨name, hu.2.1, hu.2.2, (Verdict.reject.inj h).symm⟩

/-- in an accepted match without default every constructor-built value is dispatched to an arm of
its own case: the emitted "never reached" panic is unreachable -/
theorem dispatch_total (cases arms : List String) (h : accepts π cases arms false = true)
    (tag : String) (ht : tag ∈ cases) :
    ∃ i, dispatch arms tag = some i ∧ arms[i]? = some tag := by
  have hmem : tag ∈ arms :=
    ((accept_iff π hπ cases arms false).mp h).2.resolve_left Bool.false_ne_true tag ht
  cases hd : dispatch arms tag with
  | none => exact absurd hmem fun hm => by simpa using List.findIdx?_eq_none_iff.mp hd tag hm
  | some i =>
    obtain ⟨hlt, hp, _⟩ := List.findIdx?_eq_some_iff_getElem.mp hd
    exact ⟨i, rfl, by rw [List.getElem?_eq_getElem hlt, beq_iff_eq.mp hp]⟩

omit hπ in
/-- non-vacuity -/
example : accepts id ["A", "B", "C"] ["C", "A", "B"] false = true ∧
    accepts id ["A", "B", "C"] ["C", "A"] false = false ∧
    accepts id ["A", "B", "C"] ["C"] true = true ∧ accepts id ["A"] [] true = false := by decide

end Folang.Props.C09
