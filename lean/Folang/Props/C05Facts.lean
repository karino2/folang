import Folang.Generated.EnumFacts
/-
Obligation over the regenerated inventory of enumeration / non-determinism sites (C05): exactly the
seven consumers that have an order-independence theorem in Props/C05.lean, the three loops inside
pkg/dict that implement Keys/Values/KVs, and range loops over slices/strings (ordered, harmless).
No goroutine, select, time, rand, os.Environ or %p anywhere in fc, pkg or cmd.
-/
namespace Folang.Props.C05

def expectedSites : List (String × String × String) := [
  ("fc/gen_infer.go", "eqsItems", "dict.Keys"),                     -- consumer: rsRegisterNewEI_order_indep
  ("fc/gen_infer.go", "eqsUnion", "dict.Keys"),                     -- eqsUnion_order_indep
  ("fc/gen_infer.go", "eqsUnion", "dict.Keys"),
  ("fc/gen_parse_state.go", "scLookupRecFacCur", "dict.Values"),    -- lookupRecFac_order_indep
  ("fc/gen_parse_state.go", "piRegAll", "dict.KVs"),                -- piRegAll_order_indep
  ("fc/gen_parse_state.go", "piRegAll", "dict.KVs"),
  ("fc/gen_parser.go", "exaustiveCheck", "dict.KVs"),               -- exhaustive_decision_order_indep
  ("fc/wrapper.go", "isStringAt", "range s"),
  ("pkg/dict/dict.go", "KVs", "range d.Fdict"),
  ("pkg/dict/dict.go", "Keys", "range d.Fdict"),
  ("pkg/dict/dict.go", "Values", "range d.Fdict"),
  ("pkg/dict/dict.go", "ToDict", "range ss"),
  ("pkg/frt/frt.go", "SInterP", "range args"),
  ("pkg/slice/slice.go", "Map", "range s"),
  ("pkg/slice/slice.go", "Mapi", "range s"),
  ("pkg/slice/slice.go", "Iter", "range s"),
  ("pkg/slice/slice.go", "Filter", "range s"),
  ("pkg/slice/slice.go", "Zip", "range s1"),
  ("pkg/slice/slice.go", "Forall", "range s"),
  ("pkg/slice/slice.go", "Forany", "range s"),
  ("pkg/slice/slice.go", "Collect", "range ss"),
  ("pkg/slice/slice.go", "Concat", "range ss"),
  ("pkg/slice/slice.go", "Distinct", "range ss"),
  ("pkg/slice/slice.go", "TryFind", "range ss"),
  ("pkg/slice/slice.go", "Fold", "range ss"),
  ("pkg/strings/strings.go", "Concat", "range strs")]

theorem fact_enumSites : Folang.Generated.enumSites = expectedSites := rfl

/-- one level up: the functions of fc that enumerate a dictionary are used only by the consumers the
order-independence theorems are about (`eqsItems` only by `rsRegisterNewEI`, `eqsUnion` only by
`eiUnion`, …): a new user of an enumerating function — an enumeration handed on through a wrapper —
changes this list -/
theorem fact_enumCallers : Folang.Generated.enumCallers =
    [("fc/gen_infer.go", "eiUnion", "eqsUnion"),
     ("fc/gen_infer.go", "rsRegisterNewEI", "eqsItems"),
     ("fc/gen_parse_state.go", "scLookupRecFac", "scLookupRecFacCur"),
     ("fc/gen_parser.go", "parseURules", "exaustiveCheck"),
     ("fc/gen_parser.go", "parsePackageInfo", "piRegAll")] := rfl

/-- the shape `lookupRecFac` models: Values, Filter, SortBy, IsEmpty, then Head (fix 5aa1ab1) -/
theorem fact_lookupRecFacCalls : Folang.Generated.lookupRecFacCalls =
    ["frt.Pipe", "frt.Pipe", "dict.Values", "slice.Filter", "slice.SortBy", "frt.IfElse", "slice.IsEmpty",
     "frt.NewTuple2", "frt.NewTuple2", "slice.Head"] := rfl

end Folang.Props.C05
