import Folang.Lemmas.OffsideLays
import Folang.Generated.OffsideFacts
/-
C06 — the offside scheme reads back every layout of a block structure (model: Model/Offside.lean).

`LBlock c ts toks` says that the token sequence `toks` lays out the block structure `ts` with the
block's statements starting at column `c`: inside it every nested block may sit at ANY column right
of the statement that opens it (a different amount for every block), on the same line as the opener
or after any number of ends of line (blank lines, comment lines — the tokenizer folds them into
end-of-line tokens), with any number (≥ 1) of ends of line after a statement and the tokens of a
statement after its first at any columns (trailing spaces, alignment).
-/
namespace Folang.Props.C06Block
open Folang.Offside

/-- every layout of a block structure is read back as exactly that structure, and the parser stops
exactly at the first token that is left of the block (or the end of input) -/
theorem block_roundtrip (top c : Nat) (ts : List T) (toks rest : List Tok)
    (hl : LBlock c ts toks) (htop : top < c) (he : Ends c rest) :
    ∃ N, ∀ f, N ≤ f → pBlock f top (toks ++ rest) = .ok ts rest :=
  Eventually.step (pList_lays ts c toks rest hl he) fun f h =>
    (pBlock_of_pList ((lblock_starts ts hl).append rest) htop f).trans h

/-- only relative indentation and line structure matter: two layouts of one block structure — at
different columns, with different indentation of every nested block, different numbers of blank
lines, different spacing inside the lines, under different enclosing blocks and followed by different
text — are read as the same structure -/
theorem layout_invariance (ts : List T) (top₁ c₁ top₂ c₂ : Nat) (toks₁ rest₁ toks₂ rest₂ : List Tok)
    (h₁ : LBlock c₁ ts toks₁) (h₂ : LBlock c₂ ts toks₂) (ht₁ : top₁ < c₁) (ht₂ : top₂ < c₂)
    (he₁ : Ends c₁ rest₁) (he₂ : Ends c₂ rest₂) :
    ∃ N, ∀ f, N ≤ f → pBlock f top₁ (toks₁ ++ rest₁) = .ok ts rest₁ ∧ pBlock f top₂ (toks₂ ++ rest₂) = .ok ts rest₂ :=
  Eventually.and (block_roundtrip top₁ c₁ ts toks₁ rest₁ h₁ ht₁ he₁) (block_roundtrip top₂ c₂ ts toks₂ rest₂ h₂ ht₂ he₂)

/-- "conversely a line indented less than its block ends that block": whatever follows the block,
if its first token is left of the block's column the block is exactly the statements before it and
that line is left for the enclosing block -/
theorem dedent_ends_block (top c : Nat) (ts : List T) (toks : List Tok) (n col : Nat) (r : List Tok)
    (hl : LBlock c ts toks) (htop : top < c) (hcol : col < c) :
    ∃ N, ∀ f, N ≤ f → pBlock f top (toks ++ ⟨.word n, col⟩ :: r) = .ok ts (⟨.word n, col⟩ :: r) :=
  block_roundtrip top c ts toks _ hl htop ⟨_, r, rfl, ⟨fun h => (by cases h), Or.inr hcol⟩⟩

/-- a block must start right of the enclosing block ("Overrun offside rule") -/
theorem overrun_rejected (f top : Nat) (toks : List Tok) (h : curCol toks ≤ top) : pBlock (f + 1) top toks = .reject :=
  (pBlock_succ f top toks).trans (if_pos h)

theorem block_result_unique (top c : Nat) (ts : List T) (toks rest : List Tok)
    (hl : LBlock c ts toks) (htop : top < c) (he : Ends c rest) :
    ∃ N, ∀ f g, N ≤ f → N ≤ g → pBlock f top (toks ++ rest) = pBlock g top (toks ++ rest) := by
  obtain ⟨N, hN⟩ := block_roundtrip top c ts toks rest hl htop he
  exact ⟨N, fun f g hf hg => by rw [hN f hf, hN g hg]⟩

/-! non-vacuity: one structure, two layouts

    f =            |  f =   a
      a            |
      g =          |        g =
          b        |         b
      c            |        c
-/
def exT : List T := [.opn [1] [.line [10], .opn [2] [.line [11]], .line [12]]]

def w (n c : Nat) : Tok := ⟨.word n, c⟩
def op (c : Nat) : Tok := ⟨.opener, c⟩
def nl : Tok := ⟨.eol, 0⟩

def lay₁ : List Tok :=
  [w 1 0, op 2, nl, w 10 2, nl, w 2 2, op 4, nl, w 11 6, nl, w 12 2, nl]
def lay₂ : List Tok :=
  [w 1 0, op 2, w 10 6, nl, nl, w 2 6, op 8, nl, nl, nl, w 11 7, nl, w 12 6, nl, nl]

theorem allEol_nl (n : Nat) : AllEol (List.replicate n nl) :=
  fun _ ht => List.eq_of_mem_replicate ht ▸ rfl

theorem lay₁_lays : LBlock 0 exT lay₁ := by
  refine ⟨[w 1 0, op 2], [nl], 2, [w 10 2, nl, w 2 2, op 4, nl, w 11 6, nl, w 12 2, nl], ?_, allEol_nl 1, by decide, ?_, rfl⟩
  · exact ⟨[w 1 0], 2, ⟨rfl, trivial⟩, rfl, rfl⟩
  · refine ⟨[w 10 2, nl], [w 2 2, op 4, nl, w 11 6, nl, w 12 2, nl], ?_, ?_, rfl⟩
    · exact ⟨[w 10 2], [nl], by decide, ⟨rfl, trivial⟩, rfl, allEol_nl 1, by decide, rfl⟩
    · refine ⟨[w 2 2, op 4, nl, w 11 6, nl], [w 12 2, nl], ?_, ?_, rfl⟩
      · refine ⟨[w 2 2, op 4], [nl], 6, [w 11 6, nl], ⟨[w 2 2], 4, ⟨rfl, trivial⟩, rfl, rfl⟩, allEol_nl 1, by decide, ?_, rfl⟩
        exact ⟨[w 11 6], [nl], by decide, ⟨rfl, trivial⟩, rfl, allEol_nl 1, by decide, rfl⟩
      · exact ⟨[w 12 2], [nl], by decide, ⟨rfl, trivial⟩, rfl, allEol_nl 1, by decide, rfl⟩

theorem lay₂_lays : LBlock 0 exT lay₂ := by
  refine ⟨[w 1 0, op 2], [], 6, [w 10 6, nl, nl, w 2 6, op 8, nl, nl, nl, w 11 7, nl, w 12 6, nl, nl], ?_, allEol_nl 0, by decide, ?_, rfl⟩
  · exact ⟨[w 1 0], 2, ⟨rfl, trivial⟩, rfl, rfl⟩
  · refine ⟨[w 10 6, nl, nl], [w 2 6, op 8, nl, nl, nl, w 11 7, nl, w 12 6, nl, nl], ?_, ?_, rfl⟩
    · exact ⟨[w 10 6], [nl, nl], by decide, ⟨rfl, trivial⟩, rfl, allEol_nl 2, by decide, rfl⟩
    · refine ⟨[w 2 6, op 8, nl, nl, nl, w 11 7, nl], [w 12 6, nl, nl], ?_, ?_, rfl⟩
      · refine ⟨[w 2 6, op 8], [nl, nl, nl], 7, [w 11 7, nl], ⟨[w 2 6], 8, ⟨rfl, trivial⟩, rfl, rfl⟩, allEol_nl 3, by decide, ?_, rfl⟩
        exact ⟨[w 11 7], [nl], by decide, ⟨rfl, trivial⟩, rfl, allEol_nl 1, by decide, rfl⟩
      · exact ⟨[w 12 6], [nl, nl], by decide, ⟨rfl, trivial⟩, rfl, allEol_nl 2, by decide, rfl⟩

/-- a whole file is `pList … 0`, not `pBlock`: the real parser starts with the offside stack `[0]` and reads
the root statements to the end of input without a push (`parseRootStmts`); `isEndOfBlock 0` is the end of
input, and `pBlock` under 0 would reject column 0 as an overrun -/
example : pList 20 0 (lay₁ ++ [⟨.eof, 0⟩]) = .ok exT [⟨.eof, 0⟩] := by rfl
example : pList 20 0 (lay₂ ++ [⟨.eof, 0⟩]) = .ok exT [⟨.eof, 0⟩] := by rfl

/-! ### what the real parser looks at (regenerated from fc/*.go on every run)

The column the tokenizer computes (`Tokenizer.col`, written by `newTkz` / `tkzNext`) is read only by
`psCurCol`; `psCurCol` and the top of the offside stack only by `psPushOffside` (compare, push),
`insideOffside` (≥) and `isEndOfBlock` (<); the stack is pushed and popped only around the statement
list of a block (`parseBlockAfterPushScope`) and the declarations of a `package_info`; `isEndOfBlock`
is consulted only by `parseStmtList` (and `parseExtDefs`), `insideOffside` only by the match rule
lists.  The model has the first and the last of these comparisons (`top ≥ curCol` in `pBlock`,
`curCol < top` in `isEndOfBlock`); `insideOffside` is not modelled (the next `| pat ->` is a sibling
statement there).  A new reader of a column changes this list and the theorem stops checking. -/
theorem fact_columnUses : Folang.Generated.columnUses =
    ["insideOffside:psCurCol", "insideOffside:psCurOffside", "isEndOfBlock:psCurCol", "isEndOfBlock:psCurOffside",
     "newParse:offsideCol=", "newTkz:col=", "parseBlockAfterPushScope:psPopOffside",
     "parseBlockAfterPushScope:psPushOffside", "parseExtDefs:isEndOfBlock", "parsePackageInfo:psPopOffside",
     "parsePackageInfo:psPushOffside", "parseSRules:insideOffside", "parseStmtList:isEndOfBlock",
     "parseURules:insideOffside", "parseUnionMatchRules:insideOffside", "psCurCol:.col",
     "psCurOffside:.offsideCol", "psPopOffside:.offsideCol", "psPushOffside:.offsideCol",
     "psPushOffside:psCurCol", "psPushOffside:psCurOffside", "psWithScope:.offsideCol",
     "psWithTDCtx:.offsideCol", "psWithTVCtx:.offsideCol", "psWithTkz:.offsideCol", "tkzNext:.col",
     "tkzNext:col="] := rfl

end Folang.Props.C06Block
