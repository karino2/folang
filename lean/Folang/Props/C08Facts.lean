import Folang.Generated.FcFacts
import Folang.Spec.OpTable
import Folang.Lemmas.TableRows
/-
Obligations over facts regenerated from /repo/fc on every run (C08).
-/
namespace Folang.Props.C08
open Folang.Spec

/-- the published table in the shape the extractor prints: (token type, rank, Go name, bool) -/
def publishedRows : List (String × Nat × String × Bool) :=
  publishedTable.map (fun r => (r.2.1, r.2.2.1, r.2.2.2.1, r.2.2.2.2))

/-- **the table in the code IS the published table** (as a set of rows; no extra or missing operator) -/
theorem table_is_published :
    (∀ r ∈ Folang.Generated.binOpTable, r ∈ publishedRows) ∧
    (∀ r ∈ publishedRows, r ∈ Folang.Generated.binOpTable) ∧
    Folang.Generated.binOpTable.length = publishedRows.length :=
  -- the extractor prints the rows sorted by token type, the published table lists them by rank: the list of
  -- numbers is the place of each printed row in the published table
  have h := Folang.Lemmas.same_rows (A := Folang.Generated.binOpTable) (B := publishedRows)
    [1, 11, 2, 8, 7, 5, 3, 6, 4, 10, 0, 9, 12] rfl (by decide)
  ⟨h.1, h.2, rfl⟩

/-- the recursion scheme modelled by `climb`: stop when `Precedence < minPrec`, right operand parsed
with `Precedence + 1` -/
theorem fact_precedenceUses : Folang.Generated.precedenceUses =
    ["parseBinAfter: bop.Precedence < minPrec", "parseBinAfter: bop.Precedence + 1"] := rfl

/-- ranks are positive, so the top-level call with minPrec = 1 consumes every operator -/
theorem ranks_positive : ∀ k, k < publishedTable.length → 1 ≤ publishedPrec k := by decide

end Folang.Props.C08
