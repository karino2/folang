/-
C05 — composition.  The per-consumer theorems of Props/C05.lean say that each place where fc looks
at a dictionary enumeration computes the same thing for every enumeration order.  This file is the
step from there to "the whole run does": a run is a sequence of stages over the compiler state;
a stage may consult an enumeration order (its own, at every step a different one); if every stage
is order independent, so is the run — whatever the orders are, also when they differ from stage to
stage and from run to run (Go randomises every `range` over a map separately).

That the real compiler is such a sequence in which ONLY the inventoried sites consult an enumeration
is `fact_enumSites` (regenerated); that each inventoried consumer is order independent are the
theorems of Props/C05.lean, on models.  Output files are a function of the final state.
-/
namespace Folang.Props.C05Compose

/-- a stage: the next state from the current state and the enumeration order(s) it is shown -/
abbrev Stage (σ ω : Type) := σ → ω → σ

/-- Equality of states, so `σ` is the state up to what the rest of the compiler observes of it: the
theorems of Props/C05.lean give a dictionary equal as a finite map (`get?`), not as an association list. -/
def OrderIndep {σ ω : Type} (s : Stage σ ω) : Prop := ∀ st o o', s st o = s st o'

/-- run the stages in sequence; stage number `k` is shown the order `os k` -/
def runFrom {σ ω : Type} : List (Stage σ ω) → Nat → σ → (Nat → ω) → σ
  | [], _, st, _ => st
  | s :: rest, k, st, os => runFrom rest (k + 1) (s st (os k)) os

theorem runFrom_order_indep {σ ω : Type} : ∀ (stages : List (Stage σ ω)), (∀ s ∈ stages, OrderIndep s) →
    ∀ (k : Nat) (st : σ) (os os' : Nat → ω), runFrom stages k st os = runFrom stages k st os'
  | [], _, _, _, _, _ => rfl
  | s :: rest, h, k, st, os, os' => by
    simp only [runFrom]
    rw [h s List.mem_cons_self st (os k) (os' k)]
    exact runFrom_order_indep rest (fun s' hs' => h s' (List.mem_cons_of_mem _ hs')) (k + 1) _ os os'

/-- **two runs of the compiler on the same input produce the same output**, whatever enumeration
orders the runtime picks at each site, provided every stage is order independent -/
theorem run_deterministic {σ ω β : Type} (stages : List (Stage σ ω)) (h : ∀ s ∈ stages, OrderIndep s)
    (output : σ → β) (init : σ) (os os' : Nat → ω) :
    output (runFrom stages 0 init os) = output (runFrom stages 0 init os') := by
  rw [runFrom_order_indep stages h 0 init os os']

/-- conversely one order-dependent stage whose difference reaches the output is enough to break it
(the shape of every seeded change of this property) -/
theorem one_dependent_stage_breaks {σ ω β : Type} (s : Stage σ ω) (output : σ → β) (st : σ) (o o' : ω)
    (hd : output (s st o) ≠ output (s st o')) :
    ∃ os os' : Nat → ω, output (runFrom [s] 0 st os) ≠ output (runFrom [s] 0 st os') :=
  ⟨fun _ => o, fun _ => o', by simpa [runFrom] using hd⟩

/-- a stage that ignores the order is order independent (every stage outside the inventory) -/
theorem orderIndep_of_ignores {σ ω : Type} (f : σ → σ) : OrderIndep (fun st (_ : ω) => f st) :=
  fun _ _ _ => rfl

end Folang.Props.C05Compose
