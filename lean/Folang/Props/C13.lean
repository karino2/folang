import Folang.Lemmas.SliceFuncs
import Folang.Spec.SliceSpec
/-
C13 — slice library functions compute their F#-List-style specification.

Every theorem is about the statement-by-statement model of pkg/slice (Model/GoSlice.lean) on a
Go-style heap, for ALL heaps, ALL valid slice values (any offset / length / capacity), ALL element
types, ALL callbacks and ALL growth policies of `append`; the heap has one element type, so a
callback's results have the type of its arguments (`Map f` with `f : α → α`).  `Post h res spec`
says: the call returns normally, changes no existing array (`Ext`), and the returned slice value is
valid and holds exactly `spec`.  Domain guards are the ones the Go code has; outside them the panic is proved.
-/
set_option linter.unusedSectionVars false
namespace Folang.Props.C13
open Folang.GoSlice Folang.Spec
variable {α : Type} [Inhabited α] (g : Growth) (h : Heap α)

/-! Map / Mapi / Filter / Collect / Concat / Append preserve order -/
theorem map_spec (f : α → α) (s : Slice) (v : Valid h s) :
    Post h (Map g f h s) ((read h s).map f) :=
  build_range v (·.map f) rfl _ fun w e st inv _ =>
    ⟨_, rfl, by rw [List.map_append]; exact inv.append g _⟩
-- `mapIdx` counts in `Nat`, Go's index is an `int`: `fun i e => f i e` is `fun i e => f (↑i) e`
theorem mapi_spec (f : Int → α → α) (s : Slice) (v : Valid h s) :
    Post h (Mapi g f h s) ((read h s).mapIdx (fun i e => f i e)) :=
  build_range v (·.mapIdx fun i e => f i e) rfl _ fun w e st inv _ =>
    ⟨_, rfl, by rw [List.mapIdx_append]; simpa using inv.append g _⟩
theorem filter_spec (p : α → Bool) (s : Slice) (v : Valid h s) :
    Post h (Filter g p h s) ((read h s).filter p) :=
  build_range v (·.filter p) rfl _ fun w e st inv _ => by
    rw [List.filter_append]
    cases hp : p e
    · exact ⟨st, if_neg Bool.false_ne_true, by simpa [hp] using inv⟩
    · exact ⟨_, if_pos rfl, by simpa [hp] using inv.append g [e]⟩
theorem collect_spec (f : α → Slice) (s : Slice) (v : Valid h s) (vf : ∀ e, Valid h (f e)) :
    Post h (Collect g f h s) ((read h s).flatMap (fun e => read h (f e))) :=
  build_range v (·.flatMap fun e => read h (f e)) rfl _ fun w e st inv _ =>
    ⟨_, rfl, by rw [List.flatMap_append, List.flatMap_singleton]; exact inv.append_read g (vf e)⟩
theorem concat_spec (ss : List Slice) (vs : ∀ s ∈ ss, Valid h s) :
    Post h (.ok (Concat g h ss)) (ss.map (read h)).flatten :=
  (Concat_inv g h ss vs [] (.nil, h) (BInv.init h)).toPost
-- `v1` is not needed: `append` copies whatever `s1` holds
set_option linter.unusedVariables false in
theorem append_spec (s1 s2 : Slice) (v1 : Valid h s1) (v2 : Valid h s2) :
    Post h (.ok (Append g h s1 s2)) (read h s1 ++ read h s2) :=
  (((BInv.init h).append g (read h s1)).append_read g v2).toPost

/-! Take n / Skip n split a slice at n -/
theorem take_spec (n : Int) (s : Slice) (v : Valid h s) (hn : n.toNat ≤ s.len) :
    Post h (Take g h n s) ((read h s).take n.toNat) := by
  obtain ⟨st', inv, e⟩ := copy_window g h s v 0 n.toNat
  rw [Take, e.trans (if_pos hn)]
  exact inv.toPost
theorem take_panics (n : Int) (s : Slice) (v : Valid h s) (hn : s.len < n.toNat) :
    Take g h n s = .error .index := Take_panics g h n s v hn
theorem skip_spec (n : Int) (s : Slice) (v : Valid h s) (hn : 0 ≤ n) :
    Post h (Skip g h n s) ((read h s).drop n.toNat) := by
  obtain ⟨st', inv, e⟩ := copy_window g h s v n.toNat (s.len - n.toNat)
  rw [List.take_of_length_le (by rw [List.length_drop, read_length v]; exact Nat.le_refl _)] at inv
  rw [Skip, if_neg (Int.not_lt.mpr hn), e.trans (if_pos (Nat.le_refl _))]
  exact inv.toPost
theorem skip_negative (n : Int) (s : Slice) (hn : n < 0) :
    Skip g h n s = .error .index := Skip_neg g h n s hn

theorem take_append_skip (n : Int) (s : Slice) (v : Valid h s) (h0 : 0 ≤ n) (hn : n.toNat ≤ s.len) :
    ∃ r1 h1 r2 h2, Take g h n s = .ok (r1, h1) ∧ Skip g h n s = .ok (r2, h2) ∧
      read h1 r1 ++ read h2 r2 = read h s := by
  obtain ⟨r1, h1, e1, _, _, rd1⟩ := take_spec g h n s v hn
  obtain ⟨r2, h2, e2, _, _, rd2⟩ := skip_spec g h n s v h0
  exact ⟨r1, h1, r2, h2, e1, e2, by rw [rd1, rd2, List.take_append_drop]⟩

/-! Head / Tail / Last / PopLast / PushHead / PushLast / Item address the ends and indices -/
theorem head_spec (s : Slice) (v : Valid h s) (hne : s.len ≠ 0) :
    ∃ e, Head h s = .ok e ∧ (read h s).head? = some e := by
  obtain ⟨e, he⟩ := getAt_some_of_lt v (i := 0) (by omega)
  exact ⟨e, by rw [Head, if_neg hne, he], List.head?_eq_getElem? ▸ he⟩
theorem head_panics (s : Slice) (he : s.len = 0) :
    Head h s = .error (.msg "call Head to empty list") := if_pos he
theorem last_spec (s : Slice) (v : Valid h s) (hne : s.len ≠ 0) :
    ∃ e, Last h s = .ok e ∧ (read h s).getLast? = some e := by
  obtain ⟨e, he⟩ := getAt_some_of_lt v (i := s.len - 1) (by omega)
  refine ⟨e, by rw [Last, if_neg hne, he], ?_⟩
  rw [List.getLast?_eq_getElem?, read_length v]; exact he
theorem last_panics (s : Slice) (he : s.len = 0) : Last h s = .error .index := if_pos he
theorem item_spec (i : Int) (s : Slice) (v : Valid h s) (h0 : 0 ≤ i) (hi : i.toNat < s.len) :
    ∃ e, Item h i s = .ok e ∧ (read h s)[i.toNat]? = some e := by
  obtain ⟨e, he⟩ := getAt_some_of_lt v hi
  exact ⟨e, by rw [Item, if_neg (Int.not_lt.mpr h0), he], he⟩
theorem item_panics (i : Int) (s : Slice) (v : Valid h s) (hi : i < 0 ∨ s.len ≤ i.toNat) :
    Item h i s = .error .index := by
  rw [Item]
  split
  · rfl
  · rw [getAt_none_of_ge v (hi.resolve_left ‹_›)]
theorem tail_spec (s : Slice) (v : Valid h s) (hne : s.len ≠ 0) :
    ∃ r, Tail s = .ok r ∧ Valid h r ∧ read h r = (read h s).tail := by
  obtain ⟨r, e, vr, rd⟩ := subslice_spec v (i := 1) (j := s.len) (by omega) (Nat.le_refl _)
  rw [← read_length v, List.take_length, List.drop_one] at rd
  exact ⟨r, by rw [Tail, if_neg hne, e], vr, rd⟩
theorem tail_panics (s : Slice) (he : s.len = 0) :
    Tail s = .error (.msg "call Tail to empty list") := Tail_panics s he
theorem popLast_spec (s : Slice) (v : Valid h s) (hne : s.len ≠ 0) :
    ∃ r, PopLast s = .ok r ∧ Valid h r ∧ read h r = (read h s).dropLast := by
  obtain ⟨r, e, vr, rd⟩ := subslice_spec v (i := 0) (j := s.len - 1) (Nat.zero_le _) (Nat.sub_le _ _)
  rw [List.drop_zero, ← read_length v, ← List.dropLast_eq_take] at rd
  exact ⟨r, by rw [PopLast, if_neg hne, e], vr, rd⟩
theorem popLast_panics (s : Slice) (he : s.len = 0) : PopLast s = .error .index := PopLast_panics s he
theorem pushLast_spec (e : α) (s : Slice) (v : Valid h s) :
    Post h (PushLast g h e s) (read h s ++ [e]) := by
  -- `s[:len:len]` is full, so the `append` cannot write into the array `s` shares with others
  obtain ⟨s', e3, v', hl, hc, rd⟩ := slice3_spec v (Nat.le_refl s.len) (Nat.le_refl _)
    (by cases s with | nil => exact Nat.le_refl _ | mk a o l c => exact v.2.1)
  rw [← read_length v, List.take_length] at rd
  have r := appendN_read g h s' [e] v'
  rw [PushLast, e3]
  exact ⟨_, _, rfl, (appendN_full g (hc.trans hl.symm) [e]).1, r.1, rd ▸ r.2⟩
theorem pushHead_spec (e : α) (s : Slice) (v : Valid h s) :
    Post h (PushHead g h e s) (e :: read h s) :=
  ((BInv.alloc h [e] 1).append_read g v).toPost
theorem new_spec : Post h (.ok (New h)) ([] : List α) := (BInv.alloc h [] 0).toPost

/-! Zip pairs positionally -/
theorem zip_spec (mk : α → α → α) (s1 s2 : Slice) (v1 : Valid h s1) (v2 : Valid h s2)
    (hl : s1.len = s2.len) :
    Post h (Zip g mk h s1 s2) (List.zipWith mk (read h s1) (read h s2)) := by
  rw [Zip, if_neg (by omega)]
  -- the result for the first `n` elements is the first `n` elements of the result
  refine (build_range v1 (fun w => (List.zipWith mk (read h s1) (read h s2)).take w.length) rfl _
    fun w e st inv he => ?_).congr_spec
      (List.take_of_length_le (by rw [List.length_zipWith]; exact Nat.min_le_left _ _))
  obtain ⟨e2, (he2 : (read h s2)[w.length]? = some e2)⟩ := getAt_some_of_lt v2 (i := w.length)
    (by rw [← hl, ← read_length v1]; exact (List.getElem?_eq_some_iff.mp he).1)
  refine ⟨appendN g st.2 st.1 [mk e e2], ?_, ?_⟩
  · simp only [getAt, read_ext inv.1 v2, he2]
  · have := inv.append g [mk e e2]
    rwa [List.length_append, List.length_singleton, List.take_add_one, List.getElem?_zipWith, he, he2]
theorem zip_panics (mk : α → α → α) (s1 s2 : Slice) (hl : s1.len ≠ s2.len) :
    Zip g mk h s1 s2 = .error (.msg "zip with different length slices.") := Zip_panics g mk h s1 s2 hl

/-! Fold is a left fold; Forall / Forany / TryFind scan left to right -/
theorem fold_spec {σ : Type} (folder : σ → α → σ) (ini : σ) (s : Slice) (v : Valid h s) :
    Fold folder ini h s = .ok ((read h s).foldl folder ini) := by
  rw [Fold, ← read_length v]
  exact foldLoop_eq h s folder (read h s) 0 ini rfl
theorem iter_spec {ε : Type} (action : α → ε) (s : Slice) (v : Valid h s) :
    Iter action h s = .ok ((read h s).map action) := by
  rw [show Iter action h s = Fold (fun tr e => tr ++ [action e]) [] h s from rfl, fold_spec h _ _ s v,
    List.foldl_append_eq_append (f := fun e => [action e]), List.nil_append, ← List.flatMap_def,
    ← List.map_eq_flatMap]
theorem forall_spec (p : α → Bool) (s : Slice) (v : Valid h s) :
    Forall p h s = .ok ((read h s).all p) := by
  rw [Forall, scan_spec h s v (fun e => !p e) fun _ => false, List.all_eq_not_any_not, ← List.isSome_find?]
  cases (read h s).find? (fun e => !p e) <;> rfl
theorem forany_spec (p : α → Bool) (s : Slice) (v : Valid h s) :
    Forany p h s = .ok ((read h s).any p) := by
  rw [Forany, scan_spec h s v p fun _ => true, ← List.isSome_find?]
  cases (read h s).find? p <;> rfl
theorem tryFind_spec (p : α → Bool) (s : Slice) (v : Valid h s) :
    TryFind p h s = .ok (match (read h s).find? p with | some e => (e, true) | none => (default, false)) := by
  rw [TryFind, scan_spec h s v p fun e => (e, true)]
  cases (read h s).find? p <;> rfl

/-! Sort and SortBy return an ascending permutation of the input (given the contract of
`slices.SortFunc`, which is a parameter of the model) -/
theorem sortWith_spec (srt : List α → List α) (s : Slice) (v : Valid h s) :
    Post h (SortWith g srt h s) (padded (srt (read h s)) (read h s)) := by
  obtain ⟨z, e3, vz, hl, hc, rd⟩ := slice3_spec v (Nat.le_refl 0) (Nat.zero_le _) (Nat.zero_le _)
  have r := appendN_read g h z (read h s) vz
  have f := appendN_full g (h := h) (hc.trans hl.symm) (read h s)
  rw [rd, List.take_zero, List.nil_append] at r
  rw [SortWith, e3]
  dsimp only
  generalize appendN g h z (read h s) = st at r f ⊢
  obtain ⟨res, h1⟩ := st
  dsimp only at r f ⊢
  cases res with
  | nil => exact ⟨_, _, rfl, f.1, trivial, by rw [← r.2]; simp [GoSlice.read, padded]⟩
  | mk a o l c =>
    have hlen : (read h s).length = l := by rw [← r.2]; exact read_length r.1
    subst hlen
    rw [r.2]
    -- the copy is fresh unless it is empty, and then nothing is written
    exact overwrite_post (padded (srt (read h s)) (read h s)) (padded_length _ _)
      (fun hne => f.2 fun h0 => hne (List.eq_nil_of_length_eq_zero (by rw [padded_length, h0]; rfl)))
      f.1 r.1

theorem sort_sorted_perm {κ : Type} (le : κ → κ → Prop) (key : α → κ) (srt : List α → List α)
    (hs : IsSorter le key srt) (s : Slice) (v : Valid h s) :
    ∃ r h', SortWith g srt h s = .ok (r, h') ∧ Ext h h' ∧ Valid h' r ∧
      (read h' r).Perm (read h s) ∧ (read h' r).Pairwise (fun a b => le (key a) (key b)) := by
  obtain ⟨r, h', e, ex, vr, rd⟩ :=
    (sortWith_spec g h srt s v).congr_spec (padded_eq _ _ (hs.length _))
  exact ⟨r, h', e, ex, vr, by rw [rd]; exact hs.perm _, by rw [rd]; exact hs.sorted _⟩

/-! Distinct keeps first occurrences in order -/
/-- `firstOcc` read from the left end, the way a loop with a set of seen keys computes it -/
theorem firstOcc_snoc [DecidableEq α] (w : List α) (e : α) :
    firstOcc (w ++ [e]) = if e ∈ w then firstOcc w else firstOcc w ++ [e] := by
  induction w with
  | nil => rfl
  | cons x w ih =>
    simp only [List.cons_append, firstOcc, ih, List.mem_cons]
    by_cases hx : e = x
    · subst hx
      simp
      split <;> simp
    · by_cases hw : e ∈ w <;> simp [hx, hw]

theorem distinct_spec [DecidableEq α] (s : Slice) (v : Valid h s) :
    Post h (Distinct g h s) (firstOcc (read h s)) := by
  -- the Go map `set` holds exactly the elements seen so far
  obtain ⟨st', ⟨inv, _⟩, e⟩ := rangeLoop_spec (τ := St α × List α) (·.1.2) s
    (fun _ e st => if e ∈ st.2 then .ok st else .ok (appendN g st.1.2 st.1.1 [e], e :: st.2))
    (read h s) (read_length v) (fun w st => BInv h (firstOcc w) st.1 ∧ ∀ x, x ∈ st.2 ↔ x ∈ w)
    (fun _ _ inv => read_ext inv.1.1 v)
    (fun w e st ⟨inv, hseen⟩ _ => by
      rw [firstOcc_snoc]
      by_cases hm : e ∈ st.2
      · refine ⟨st, if_pos hm, by rwa [if_pos ((hseen e).mp hm)], fun x => ?_⟩
        rw [hseen x, List.mem_append, List.mem_singleton]
        exact ⟨.inl, fun hx => hx.elim id (· ▸ (hseen e).mp hm)⟩
      · refine ⟨_, if_neg hm, by rw [if_neg (mt (hseen e).mpr hm)]; exact inv.append g [e], fun x => ?_⟩
        rw [List.mem_cons, hseen x, List.mem_append, List.mem_singleton]
        exact Or.comm)
    (allocWith h [] 0, []) ⟨BInv.alloc h [] 0, fun x => Iff.rfl⟩
  rw [Distinct, e]
  exact inv.toPost

theorem firstOcc_nodup [DecidableEq α] (l : List α) : (firstOcc l).Nodup := by
  induction l with
  | nil => simp [firstOcc]
  | cons x xs ih =>
    simp only [firstOcc, List.nodup_cons]
    exact ⟨by simp, ih.filter _⟩

theorem mem_firstOcc [DecidableEq α] (l : List α) (a : α) : a ∈ firstOcc l ↔ a ∈ l := by
  induction l with
  | nil => simp [firstOcc]
  | cons x xs ih =>
    simp only [firstOcc, List.mem_cons, List.mem_filter, ih]
    by_cases ha : a = x <;> simp [ha]

theorem firstOcc_sublist [DecidableEq α] (l : List α) : (firstOcc l).Sublist l := by
  induction l with
  | nil => simp [firstOcc]
  | cons x xs ih =>
    simp only [firstOcc]
    exact ((List.filter_sublist).trans ih).cons_cons x

/-! Length / IsEmpty / IsNotEmpty agree with the element count -/
theorem length_spec (s : Slice) (v : Valid h s) : Length s = ((read h s).length : Int) := by
  simp [Length, read_length v]
theorem len_spec (s : Slice) (v : Valid h s) : Len s = ((read h s).length : Int) := by
  simp [Len, read_length v]
theorem isEmpty_spec (s : Slice) (v : Valid h s) : IsEmpty s = (read h s).isEmpty := by
  rw [IsEmpty, ← read_length v]
  cases read h s <;> rfl
theorem isNotEmpty_spec (s : Slice) (v : Valid h s) : IsNotEmpty s = !(read h s).isEmpty := by
  have := isEmpty_spec h s v
  simp only [IsEmpty] at this
  simp only [IsNotEmpty, bne, this]

/-! non-vacuity: a concrete heap with a sub-slice in the middle of an array with spare capacity -/
example : Valid ([[10, 20, 30, 40, 50, 0, 0]] : Heap Nat) (.mk 0 1 3 5) ∧
    read ([[10, 20, 30, 40, 50, 0, 0]] : Heap Nat) (.mk 0 1 3 5) = [20, 30, 40] := by
  refine ⟨⟨by decide, by decide, by decide⟩, by decide⟩

end Folang.Props.C13
