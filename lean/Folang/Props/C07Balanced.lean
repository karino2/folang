import Folang.Props.C07

/-!
# C07 — the type-info key is injective for argument texts WITH commas

`encodedKey_inj` (Props/C07.lean) needs argument texts without a comma.  The Go texts of tuples
(`frt.Tuple2[int, string]`), function types (`func (int, string) bool`) and generic instances with
several arguments (`Pair[int, string]`) do contain commas — always inside brackets.  This file proves
injectivity for exactly that class: `item 0 a` says that scanning `a` with a counter of open brackets
(any of `[ ( {` counts up, any of `] ) }` counts down; the kinds are not matched) never counts below
zero, meets a comma only at a positive count and ends at zero.  That the real `FTypeToGo` only produces
such texts is checked by the correspondence stream `c07.key`.
-/

namespace Folang.Props.C07
open Folang.Lib Folang.Determinism Folang.Props.C14 Folang.Props.C05

def isOpen (c : Char) : Bool := c == '[' || c == '(' || c == '{'
def isClose (c : Char) : Bool := c == ']' || c == ')' || c == '}'

def item : Nat → Txt → Bool
  | d, [] => d == 0
  | d, c :: cs =>
    if isOpen c then item (d + 1) cs
    else if isClose c then (match d with | 0 => false | d' + 1 => item d' cs)
    else if c == ',' then (d != 0 && item d cs)
    else item d cs

def plainC (c : Char) : Bool := !isOpen c && !isClose c && !(c == ',')

/-- the bracket depth after scanning, `none` when a bracket closes that is not open or a comma stands
outside brackets -/
def scan : Nat → Txt → Option Nat
  | d, [] => some d
  | d, c :: cs =>
    if isOpen c then scan (d + 1) cs
    else if isClose c then (match d with | 0 => none | d' + 1 => scan d' cs)
    else if c == ',' then (if d = 0 then none else scan d cs)
    else scan d cs

theorem item_eq_scan (t : Txt) (d : Nat) : item d t = (scan d t == some 0) := by
  fun_induction scan d t <;> simp_all [item]

theorem scan_append (a b : Txt) (d : Nat) : scan d (a ++ b) = (scan d a).bind (fun d' => scan d' b) := by
  fun_induction scan d a <;>
    simp only [List.nil_append, List.cons_append, scan, Option.bind_some, Option.bind_none, *, if_true, if_false,
      reduceCtorEq]

theorem scan_mono (a : Txt) (d d' k : Nat) (h : scan d a = some d') : scan (d + k) a = some (d' + k) := by
  fun_induction scan d a generalizing d' <;> simp_all [scan, Nat.add_right_comm]

theorem scan_plain : ∀ (a : Txt) (d : Nat), (∀ c ∈ a, plainC c = true) → scan d a = some d
  | [], d, _ => rfl
  | c :: cs, d, h => by
    have hc := h c List.mem_cons_self
    simp only [plainC, Bool.and_eq_true, Bool.not_eq_true'] at hc
    unfold scan
    simp only [hc.1.1, hc.1.2, hc.2, Bool.false_eq_true, ↓reduceIte]
    exact scan_plain cs d (fun x hx => h x (List.mem_cons_of_mem _ hx))

/-- after an item a top-level comma ends it: the longer text is not an item -/
theorem item_append_comma (a : Txt) (d : Nat) (r : Txt) (h : item d a = true) : item d (a ++ ',' :: r) = false := by
  rw [item_eq_scan, beq_iff_eq] at h
  rw [item_eq_scan, scan_append, h]
  rfl

theorem item_ends (d : Nat) (a x : Txt) (h : item d a = true) : ¬ item d (a ++ ',' :: x) = true :=
  ne_true_of_eq_false (item_append_comma a d x h)

/-- an item is never a proper prefix-up-to-a-top-level-comma of another item -/
theorem item_split (a a' : Txt) (d : Nat) (r r' : Txt) (h1 : item d a = true) (h2 : item d a' = true)
    (h : a ++ ',' :: r = a' ++ ',' :: r') : a = a' ∧ r = r' :=
  split_unique_of (item_ends d) h1 h2 h

def Items (as : List Txt) : Prop := ∀ a ∈ as, item 0 a = true

/-- lists of items of equal length with the same joined text are equal (empty items — the Go text of
`unit` is empty — are allowed: the arity settles how many there are) -/
theorem joinWith_inj_items (as bs : List Txt) (hl : as.length = bs.length) (ha : Items as) (hb : Items bs)
    (h : joinWith ',' as = joinWith ',' bs) : as = bs :=
  joinWith_inj_of (item_ends 0) as bs ha hb (by simp [← List.length_eq_zero_iff, hl]) h

/-- the same without the arity, for non-empty items -/
theorem joinWith_inj_items_nonempty (as bs : List Txt) (ha : Items as) (hb : Items bs)
    (na : ∀ a ∈ as, a ≠ []) (nb : ∀ b ∈ bs, b ≠ []) (h : joinWith ',' as = joinWith ',' bs) : as = bs :=
  joinWith_inj_of (item_ends 0) as bs ha hb (nil_iff_of_nonempty na nb h) h

/-- **the key is injective for every bracket-balanced argument text**: two instances with the same key
have the same name and the same argument texts, given that a type name has ONE arity (the number of
arguments is fixed by its declaration) -/
theorem encodedKey_inj_balanced (n n' : Txt) (as as' : List Txt) (hn : '<' ∉ n) (hn' : '<' ∉ n')
    (harity : n = n' → as.length = as'.length) (ha : Items as) (ha' : Items as')
    (h : encodedKey n as = encodedKey n' as') : n = n' ∧ as = as' :=
  encodedKey_inj_of (item_ends 0) hn hn' ha ha' (fun e _ => by simp [← List.length_eq_zero_iff, harity e]) h

/-- … and without the arity when no argument text is empty (no `unit` argument) -/
theorem encodedKey_inj_balanced_nonempty (n n' : Txt) (as as' : List Txt) (hn : '<' ∉ n) (hn' : '<' ∉ n')
    (ha : Items as) (ha' : Items as') (na : ∀ a ∈ as, a ≠ []) (na' : ∀ a ∈ as', a ≠ [])
    (h : encodedKey n as = encodedKey n' as') : n = n' ∧ as = as' :=
  encodedKey_inj_of (item_ends 0) hn hn' ha ha' (fun _ => nil_iff_of_nonempty na na') h

/-- updating one instance's info leaves every other instance's info alone — for every balanced
argument text (tuples, function types, generic instances with several arguments included) -/
theorem typeinfo_frame_balanced {ι : Type} (g : GoMap Txt ι) (n n' : Txt) (as as' : List Txt) (info : ι)
    (hn : '<' ∉ n) (hn' : '<' ∉ n') (harity : n = n' → as.length = as'.length)
    (ha : Items as) (ha' : Items as') (h : (n, as) ≠ (n', as')) :
    (dictAdd g (encodedKey n' as') info).get? (encodedKey n as) = g.get? (encodedKey n as) :=
  typeinfo_frame_partial g (n, as) (n', as') info
    (fun e => Prod.ext_iff.mpr (encodedKey_inj_balanced n n' as as' hn hn' harity ha ha' e)) h

example : item 0 "frt.Tuple2[int, string]".toList = true ∧ item 0 "func (int, string) Pair[int, []string]".toList = true ∧
    item 0 "".toList = true ∧ item 0 "a,b".toList = false ∧ item 0 "a]".toList = false ∧ item 0 "f(".toList = false := by
  decide

end Folang.Props.C07
