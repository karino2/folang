import Folang.Props.C13
import Folang.Model.SliceHistory
/-
C12 — no slice-package call changes an existing slice value.

`step_frame`  : one call, any op, any growth policy: every pool value stays valid and keeps its
                contents; the pool only grows at the end.
`history_frame`: for every history `pre ++ post` (any length, any interleaving of calls on sources,
                results and siblings, a different growth policy at every call), every value that is in
                the pool after `pre` is still there after `post` with exactly the contents it had.
`pushLast_unfixed_violates`: the witness that the statement is FALSE for the code before the fix
                (`append(s, elem)`), on the concrete history from DESIGN.md §C12.
-/
set_option linter.unusedSectionVars false
namespace Folang.Props.C12
open Folang.GoSlice
variable {α : Type} [Inhabited α] [DecidableEq α]

/-- every pool value is a valid slice header of the heap -/
def Inv (s : HState α) : Prop := ∀ v ∈ s.pool, Valid s.heap v

/-- `s'` is a later state of `s`: the pool is extended at the end and the heap by new arrays only
(so valid old values stay valid and read the same: `valid_ext`, `read_ext`) -/
def Later (s s' : HState α) : Prop :=
  (∃ rest, s'.pool = s.pool ++ rest) ∧ Ext s.heap s'.heap

theorem Later.refl (s : HState α) : Later s s := ⟨⟨[], (List.append_nil _).symm⟩, Ext.refl _⟩

theorem Later.trans {a b c : HState α} (x : Later a b) (y : Later b c) : Later a c := by
  obtain ⟨⟨r1, e1⟩, x2⟩ := x
  obtain ⟨⟨r2, e2⟩, y2⟩ := y
  exact ⟨⟨r1 ++ r2, by rw [e2, e1, List.append_assoc]⟩, x2.trans y2⟩

theorem Inv.get {s : HState α} (inv : Inv s) (i : Nat) : Valid s.heap (s.get i) := by
  unfold HState.get
  rcases Nat.lt_or_ge i s.pool.length with hi | hi
  · simp only [List.getD, List.getElem?_eq_getElem hi, Option.getD_some]; exact inv _ (List.getElem_mem hi)
  · simp only [List.getD, List.getElem?_eq_none hi, Option.getD_none]; trivial

theorem Inv.extend {s : HState α} (inv : Inv s) {v : Slice} {h' : Heap α} (ex : Ext s.heap h')
    (vv : Valid h' v) : Inv ⟨s.pool ++ [v], h'⟩ ∧ Later s ⟨s.pool ++ [v], h'⟩ := by
  refine ⟨fun x hx => ?_, ⟨[v], rfl⟩, ex⟩
  rcases List.mem_append.mp hx with hx | hx
  · exact valid_ext ex (inv x hx)
  · exact List.mem_singleton.mp hx ▸ vv

theorem push_frame {s : HState α} (inv : Inv s) {r : Except Panic (St α)} {spec : List α}
    (p : Post s.heap r spec) : Inv (s.push r) ∧ Later s (s.push r) := by
  obtain ⟨v, h', rfl, ex, vv, _⟩ := p
  exact inv.extend ex vv

theorem push_panic {s : HState α} (inv : Inv s) {r : Except Panic (St α)} {p : Panic} (e : r = .error p) :
    Inv (s.push r) ∧ Later s (s.push r) :=
  e ▸ ⟨inv, Later.refl s⟩

theorem pushPure_ok {s : HState α} (inv : Inv s) {r : Except Panic Slice} {v : Slice} (e : r = .ok v)
    (vv : Valid s.heap v) : Inv (s.pushPure r) ∧ Later s (s.pushPure r) :=
  e ▸ inv.extend (Ext.refl _) vv

theorem pushPure_panic {s : HState α} (inv : Inv s) {r : Except Panic Slice} {p : Panic} (e : r = .error p) :
    Inv (s.pushPure r) ∧ Later s (s.pushPure r) :=
  e ▸ ⟨inv, Later.refl s⟩

/-- in its domain each function meets its specification of C13, whose `Post` holds the frame; outside it
panics and the state stays -/
theorem step_frame (s : HState α) (gop : Growth × Op α) (inv : Inv s) :
    Inv (step s gop) ∧ Later s (step s gop) := by
  obtain ⟨g, op⟩ := gop
  cases op with
  | new => exact push_frame inv (C13.new_spec s.heap)
  | tail i =>
    by_cases h0 : (s.get i).len = 0
    · exact pushPure_panic inv (Tail_panics _ h0)
    · obtain ⟨r, e, vr, _⟩ := C13.tail_spec s.heap _ (inv.get i) h0
      exact pushPure_ok inv e vr
  | popLast i =>
    by_cases h0 : (s.get i).len = 0
    · exact pushPure_panic inv (PopLast_panics _ h0)
    · obtain ⟨r, e, vr, _⟩ := C13.popLast_spec s.heap _ (inv.get i) h0
      exact pushPure_ok inv e vr
  | take n i =>
    rcases Nat.lt_or_ge (s.get i).len n.toNat with hlt | hge
    · exact push_panic inv (Take_panics g s.heap n _ (inv.get i) hlt)
    · exact push_frame inv (C13.take_spec g s.heap n _ (inv.get i) hge)
  | skip n i =>
    by_cases hn : n < 0
    · exact push_panic inv (Skip_neg g s.heap n _ hn)
    · exact push_frame inv (C13.skip_spec g s.heap n _ (inv.get i) (by omega))
  | map f i => exact push_frame inv (C13.map_spec g s.heap f _ (inv.get i))
  | mapi f i => exact push_frame inv (C13.mapi_spec g s.heap f _ (inv.get i))
  | filter p i => exact push_frame inv (C13.filter_spec g s.heap p _ (inv.get i))
  | sortWith srt i => exact push_frame inv (C13.sortWith_spec g s.heap srt _ (inv.get i))
  | zip mk i j =>
    by_cases hl : (s.get i).len = (s.get j).len
    · exact push_frame inv (C13.zip_spec g s.heap mk _ _ (inv.get i) (inv.get j) hl)
    · exact push_panic inv (Zip_panics g mk s.heap _ _ hl)
  | pushLast e i => exact push_frame inv (C13.pushLast_spec g s.heap e _ (inv.get i))
  | pushHead e i => exact push_frame inv (C13.pushHead_spec g s.heap e _ (inv.get i))
  | collect f i =>
    exact push_frame inv (C13.collect_spec g s.heap _ _ (inv.get i) (fun e => inv.get (f e)))
  | concat is =>
    refine push_frame inv (C13.concat_spec g s.heap _ fun x hx => ?_)
    obtain ⟨k, _, rfl⟩ := List.mem_map.mp hx
    exact inv.get k
  | append i j => exact push_frame inv (C13.append_spec g s.heap _ _ (inv.get i) (inv.get j))
  | distinct i => exact push_frame inv (C13.distinct_spec g s.heap _ (inv.get i))

theorem run_frame (ops : List (Growth × Op α)) :
    ∀ s : HState α, Inv s → Inv (run s ops) ∧ Later s (run s ops) := by
  induction ops with
  | nil => intro s inv; exact ⟨inv, Later.refl s⟩
  | cons op rest ih =>
    intro s inv
    obtain ⟨i1, l1⟩ := step_frame s op inv
    obtain ⟨i2, l2⟩ := ih (step s op) i1
    exact ⟨i2, l1.trans l2⟩

theorem init_inv : Inv (HState.init : HState α) :=
  fun _ hv => absurd hv List.not_mem_nil

/-- **C12.** Every slice value a program holds keeps the contents it had when it was produced:
after any history `pre`, run any further history `post`; the `k`-th pool value is the same header
and reads exactly the same contents. -/
theorem history_frame (pre post : List (Growth × Op α)) (k : Nat)
    (hk : k < (run (HState.init : HState α) pre).pool.length) :
    let s1 := run (HState.init : HState α) pre
    let s2 := run s1 post
    s2.pool[k]? = s1.pool[k]? ∧ read s2.heap (s1.get k) = read s1.heap (s1.get k) := by
  intro s1 s2
  obtain ⟨inv1, _⟩ := run_frame pre (HState.init : HState α) init_inv
  obtain ⟨_, ⟨rest, hp⟩, ex⟩ := run_frame post s1 inv1
  refine ⟨?_, read_ext ex (inv1.get k)⟩
  show (run s1 post).pool[k]? = s1.pool[k]?
  rw [hp, List.getElem?_append_left hk]

/-- the same with the history given as one list and a cut point -/
theorem history_frame_cut (ops : List (Growth × Op α)) (n k : Nat)
    (hk : k < (run (HState.init : HState α) (ops.take n)).pool.length) :
    let s1 := run (HState.init : HState α) (ops.take n)
    let s2 := run (HState.init : HState α) ops
    read s2.heap (s1.get k) = read s1.heap (s1.get k) := by
  intro s1 s2
  have := (history_frame (ops.take n) (ops.drop n) k hk).2
  simp only [run, ← List.foldl_append, List.take_append_drop] at this
  exact this

/-! ### The witness: before the fix (`PushLast = append(s, elem)`) the property is false -/

/-- `s = [1 2 3 4 5]` in an array with one spare cell; `a = PushLast 10 s`; `b = PushLast 20 s`:
the second call overwrites the cell `a` owns, so `a` now reads `[1 2 3 4 5 20]`. -/
theorem pushLast_unfixed_violates :
    let g : Growth := fun _ n => n
    let h0 : Heap Nat := [[1, 2, 3, 4, 5, 0]]
    let s : Slice := .mk 0 0 5 6
    ∃ a h1 b h2, PushLastUnfixed g h0 10 s = .ok (a, h1) ∧ PushLastUnfixed g h1 20 s = .ok (b, h2) ∧
      read h1 a = [1, 2, 3, 4, 5, 10] ∧ read h2 a = [1, 2, 3, 4, 5, 20] := by
  refine ⟨.mk 0 0 6 6, [[1, 2, 3, 4, 5, 10]], .mk 0 0 6 6, [[1, 2, 3, 4, 5, 20]], ?_, ?_, ?_, ?_⟩ <;> rfl

example :
    let g : Growth := fun _ n => n
    let h0 : Heap Nat := [[1, 2, 3, 4, 5, 0]]
    let s : Slice := .mk 0 0 5 6
    ∃ a h1 b h2, PushLast g h0 10 s = .ok (a, h1) ∧ PushLast g h1 20 s = .ok (b, h2) ∧
      read h1 a = [1, 2, 3, 4, 5, 10] ∧ read h2 a = [1, 2, 3, 4, 5, 10] := by
  refine ⟨.mk 1 0 6 6, [[1, 2, 3, 4, 5, 0], [1, 2, 3, 4, 5, 10]], .mk 2 0 6 6,
    [[1, 2, 3, 4, 5, 0], [1, 2, 3, 4, 5, 10], [1, 2, 3, 4, 5, 20]], ?_, ?_, ?_, ?_⟩ <;> rfl

/-- non-vacuity: a history whose pool really contains aliasing values (a Tail of a Map result) -/
example :
    let g : Growth := fun c n => 2 * c + n
    let ops : List (Growth × Op Nat) :=
      [(g, .new), (g, .pushLast 1 0), (g, .pushLast 2 1), (g, .map (· + 1) 2), (g, .tail 3), (g, .pushLast 9 4)]
    (run HState.init ops).pool.length = 6 ∧ read (run HState.init ops).heap ((run HState.init ops).get 5) = [3, 9] := by
  decide

end Folang.Props.C12
