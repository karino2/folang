import Folang.Props.C05
import Folang.Generated.GlobalFacts
/-
C07 — a definition's translation depends only on itself and what it references.  (PARTIAL)

The long-lived state a definition can read is (regenerated fact `fact_fcGlobals`) the scope
dictionaries of the single ParseState and the two process-global type-info dictionaries keyed by
`encodedKey`.  Modelled as finite maps (dict model of C14); proved for all states and definitions:
  `lookup_frame`        registering an unrelated name does not change what any other name resolves to
  `register_swap/perm`  registering definitions with distinct names in any order gives the same scope
  `split_files`         folding the registrations file by file = folding them over the whole sequence
  `typeinfo_frame`      the same for the global type-info dictionaries (after fix c59ed89 of D14:
                        `encodedKey_inj`; `unfixed_key_collision` is the witness for the old key,
                        under which A<B_C> and A_B<C> shared "A_B_C")
NOT modelled: the per-definition translation itself (that it reads the state only through these
lookups is tied by metamorphic runs of the real compiler: permute, drop, insert, split into files).
-/
set_option linter.unusedSectionVars false
namespace Folang.Props.C07
open Folang.Lib Folang.Determinism Folang.Props.C14 Folang.Props.C05

variable {κ ν : Type} [DecidableEq κ]

/-- registering `k'` leaves every other name's binding alone -/
theorem lookup_frame (m : GoMap κ ν) (k k' : κ) (v : ν) (h : k ≠ k') : (dictAdd m k' v).get? k = m.get? k :=
  (add_refines m k' k v).trans (if_neg h)

/-- two registrations under distinct names commute -/
theorem register_swap (m : GoMap κ ν) (k1 k2 : κ) (v1 v2 : ν) (h : k1 ≠ k2) (k : κ) :
    (dictAdd (dictAdd m k1 v1) k2 v2).get? k = (dictAdd (dictAdd m k2 v2) k1 v1).get? k :=
  addAll_perm m [(k1, v1), (k2, v2)] [(k2, v2), (k1, v1)] (.swap ..) (by simpa using h) k

/-- any reordering of definitions with distinct names yields the same scope -/
theorem register_perm (m : GoMap κ ν) (defs defs' : List (κ × ν)) (p : defs.Perm defs')
    (nd : (defs.map (·.1)).Nodup) (k : κ) : (addAll m defs).get? k = (addAll m defs').get? k :=
  addAll_perm m defs defs' p nd k

/-- dropping definitions nobody looks up does not change any other lookup -/
theorem drop_unreferenced (m : GoMap κ ν) (defs : List (κ × ν)) (k : κ) (h : ∀ e ∈ defs, e.1 ≠ k) :
    (addAll m defs).get? k = m.get? k := by
  rw [addAll_get, List.find?_eq_none.mpr fun e he => by simpa using h e (List.mem_reverse.mp he)]
  rfl

/-- one ParseState folded over the files = over the concatenated sequence of definitions -/
theorem split_files (m : GoMap κ ν) (files : List (List (κ × ν))) :
    files.foldl (fun st f => addAll st f) m = addAll m files.flatten :=
  List.foldl_flatten.symm

/-! ### the process-global type-info dictionaries

Keys are texts; they are modelled as lists of characters.  Before fix c59ed89 the key was
`name ++ "_" ++ join "_" args` (not injective: `unfixed_key_collision`, defect D14); now it is
`name ++ "<" ++ join "," args ++ ">"`. -/

abbrev Txt := List Char

def joinWith (sep : Char) : List Txt → Txt
  | [] => []
  | [s] => s
  | s :: t :: rest => s ++ sep :: joinWith sep (t :: rest)

/-- the key before the fix -/
def encodedKeyOld (name : Txt) (targs : List Txt) : Txt := name ++ '_' :: joinWith '_' targs

/-- `encodedKey name targs = $"{name}<{join "," (map FTypeToGo targs)}>"` -/
def encodedKey (name : Txt) (targs : List Txt) : Txt := name ++ '<' :: (joinWith ',' targs ++ ['>'])

/-- witness (defect D14, repaired): two different generic instances shared one key -/
theorem unfixed_key_collision :
    encodedKeyOld "A".toList ["B_C".toList] = encodedKeyOld "A_B".toList ["C".toList] ∧
    ("A".toList, ["B_C".toList]) ≠ ("A_B".toList, ["C".toList]) := by decide

theorem fixed_no_collision : encodedKey "A".toList ["B_C".toList] ≠ encodedKey "A_B".toList ["C".toList] := by decide

/-- `hP`: `P` is a class of texts that `sep` ends (texts without `sep`; the bracket-balanced texts of
Props/C07Balanced.lean) -/
theorem split_unique_of {P : Txt → Prop} {sep : Char} (hP : ∀ a x, P a → ¬ P (a ++ sep :: x))
    {a a' r r' : Txt} (ha : P a) (ha' : P a') (h : a ++ sep :: r = a' ++ sep :: r') : a = a' ∧ r = r' := by
  rcases List.append_eq_append_iff.mp h with ⟨x, rfl, hx⟩ | ⟨x, rfl, hx⟩
  · cases x with
    | nil => simpa using hx
    | cons c x =>
      cases hx
      exact absurd ha' (hP a x ha)
  · cases x with
    | nil => simpa [eq_comm] using hx
    | cons c x =>
      cases hx
      exact absurd ha (hP a' x ha')

theorem not_mem_ends (sep : Char) (a x : Txt) (_ : sep ∉ a) : ¬ sep ∉ a ++ sep :: x :=
  fun h => h (by simp)

theorem split_unique (c : Char) : ∀ (l1 l2 r1 r2 : Txt), c ∉ l1 → c ∉ l2 → l1 ++ c :: r1 = l2 ++ c :: r2 → l1 = l2 ∧ r1 = r2 :=
  fun _ _ _ _ h1 h2 h => split_unique_of (not_mem_ends c) h1 h2 h

def Plain (sep : Char) (as : List Txt) : Prop := ∀ a ∈ as, sep ∉ a ∧ a ≠ []

theorem joinWith_cons2 (sep : Char) (s t : Txt) (rest : List Txt) :
    joinWith sep (s :: t :: rest) = s ++ sep :: joinWith sep (t :: rest) := rfl

theorem joinWith_ne_nil (sep : Char) : ∀ (a : Txt) (as : List Txt), a ≠ [] → joinWith sep (a :: as) ≠ []
  | a, [], h => h
  | a, t :: rest, _ => by rw [joinWith_cons2]; simp

theorem nil_iff_of_nonempty {sep : Char} {as bs : List Txt} (ha : ∀ a ∈ as, a ≠ []) (hb : ∀ b ∈ bs, b ≠ [])
    (h : joinWith sep as = joinWith sep bs) : as = [] ↔ bs = [] := by
  cases as <;> cases bs
  · simp
  · exact absurd h.symm (joinWith_ne_nil sep _ _ (hb _ List.mem_cons_self))
  · exact absurd h (joinWith_ne_nil sep _ _ (ha _ List.mem_cons_self))
  · simp

/-- `as = [] ↔ bs = []` is asked for because `[]` and `[[]]` join to the same text (nothing else does) -/
theorem joinWith_inj_of {P : Txt → Prop} {sep : Char} (hP : ∀ a x, P a → ¬ P (a ++ sep :: x)) :
    ∀ (as bs : List Txt), (∀ a ∈ as, P a) → (∀ b ∈ bs, P b) → (as = [] ↔ bs = []) →
      joinWith sep as = joinWith sep bs → as = bs
  | [], _, _, _, he, _ => (he.mp rfl).symm
  | _ :: _, [], _, _, he, _ => he.mpr rfl
  | [a], [b], _, _, _, h => congrArg (· :: []) h
  | [a], b :: b2 :: rest, ha, hb, _, h => by
    have e : a = b ++ sep :: joinWith sep (b2 :: rest) := h
    exact absurd (e ▸ ha a List.mem_cons_self) (hP b _ (hb b List.mem_cons_self))
  | a :: a2 :: rest, [b], ha, hb, _, h => by
    have e : a ++ sep :: joinWith sep (a2 :: rest) = b := h
    exact absurd (e ▸ hb b List.mem_cons_self) (hP a _ (ha a List.mem_cons_self))
  | a :: a2 :: rest, b :: b2 :: rest', ha, hb, _, h => by
    obtain ⟨e1, e2⟩ := split_unique_of hP (ha a List.mem_cons_self) (hb b List.mem_cons_self) h
    have := joinWith_inj_of hP (a2 :: rest) (b2 :: rest') (fun x hx => ha x (List.mem_cons_of_mem _ hx))
      (fun x hx => hb x (List.mem_cons_of_mem _ hx)) (by simp) e2
    rw [e1, this]

theorem joinWith_inj (sep : Char) : ∀ (as bs : List Txt), Plain sep as → Plain sep bs →
    joinWith sep as = joinWith sep bs → as = bs :=
  fun as bs ha hb h =>
    joinWith_inj_of (not_mem_ends sep) as bs (fun a m => (ha a m).1) (fun b m => (hb b m).1)
      (nil_iff_of_nonempty (fun a m => (ha a m).2) (fun b m => (hb b m).2) h) h

theorem encodedKey_inj_of {P : Txt → Prop} (hP : ∀ a x, P a → ¬ P (a ++ ',' :: x)) {n n' : Txt} {as as' : List Txt}
    (hn : '<' ∉ n) (hn' : '<' ∉ n') (ha : ∀ a ∈ as, P a) (ha' : ∀ a ∈ as', P a)
    (he : n = n' → joinWith ',' as = joinWith ',' as' → (as = [] ↔ as' = []))
    (h : encodedKey n as = encodedKey n' as') : n = n' ∧ as = as' := by
  obtain ⟨e1, e2⟩ := split_unique_of (not_mem_ends '<') hn hn' h
  have e3 := List.append_cancel_right e2
  exact ⟨e1, joinWith_inj_of hP as as' ha ha' (he e1 e3) e3⟩

/-- **the key is injective** on instances whose name contains no `<` and whose argument texts are
non-empty and contain no comma (names, basic types, slices, nested generic instances with one
argument; an argument text WITH a comma — `frt.Tuple2[int, string]`, a function type — has its commas
inside brackets: `encodedKey_inj_balanced`, Props/C07Balanced.lean) -/
theorem encodedKey_inj (n n' : Txt) (as as' : List Txt) (hn : '<' ∉ n) (hn' : '<' ∉ n')
    (ha : Plain ',' as) (ha' : Plain ',' as') (h : encodedKey n as = encodedKey n' as') : n = n' ∧ as = as' :=
  encodedKey_inj_of (not_mem_ends ',') hn hn' (fun a m => (ha a m).1) (fun a m => (ha' a m).1)
    (fun _ => nil_iff_of_nonempty (fun a m => (ha a m).2) (fun a m => (ha' a m).2)) h

theorem typeinfo_frame_partial {ι : Type} (g : GoMap Txt ι) (inst inst' : Txt × List Txt) (info : ι)
    (inj : encodedKey inst.1 inst.2 = encodedKey inst'.1 inst'.2 → inst = inst') (h : inst ≠ inst') :
    (dictAdd g (encodedKey inst'.1 inst'.2) info).get? (encodedKey inst.1 inst.2) = g.get? (encodedKey inst.1 inst.2) := by
  apply lookup_frame
  intro heq
  exact h (inj heq)

/-- updating one instance's info leaves every other instance's info alone -/
theorem typeinfo_frame {ι : Type} (g : GoMap Txt ι) (n n' : Txt) (as as' : List Txt) (info : ι)
    (hn : '<' ∉ n) (hn' : '<' ∉ n') (ha : Plain ',' as) (ha' : Plain ',' as') (h : (n, as) ≠ (n', as')) :
    (dictAdd g (encodedKey n' as') info).get? (encodedKey n as) = g.get? (encodedKey n as) :=
  typeinfo_frame_partial g (n, as) (n', as') info
    (fun e => Prod.ext_iff.mpr (encodedKey_inj n n' as as' hn hn' ha ha' e)) h

/-- no hidden state: the package-level variables of fc are exactly the known ones -/
theorem fact_fcGlobals : Folang.Generated.fcGlobals =
    ["gen_ftype.go:g_recInfoDic", "gen_ftype.go:g_uniInfoDic", "wrapper.go:uniqueId", "wrapper.go:keywordMap",
     "wrapper.go:binOpMap", "wrapper.go:binOpMapWrapper", "wrapper.go:lastTkz"] := rfl

end Folang.Props.C07
