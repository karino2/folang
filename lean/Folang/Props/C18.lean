import Folang.Model.SampleMd
import Folang.Props.C14
/-
C18 — build_sample_md renders every listed sample verbatim, in order.
-/
namespace Folang.Props.C18
open Folang.SampleMd Folang.Lib Folang.Props.C14

/-- the title of a list line: the text after the first space, or the whole line if there is none;
the file name: the text before the first space -/
def nameOf (line : Bytes) : Bytes := match goIndex (cSpace) line with
  | none => line
  | some m => line.take m
def titleOf (line : Bytes) : Bytes := match goIndex (cSpace) line with
  | none => line
  | some m => line.drop (m + 1)

/-- the section the documentation describes for one list line -/
def sectionOf (line content : Bytes) : Bytes :=
  cH3 ++ titleOf line ++ cNLNL ++ cFence ++ content ++ cFenceEnd ++
  cGenerated ++ (cGen ++ TrimSuffix (cDotFo) (nameOf line) ++ cDotGo) ++ cRB ++
  cLP ++ (cGen ++ TrimSuffix (cDotFo) (nameOf line) ++ cDotGo) ++ cRP ++ cNLNL

theorem cols_head_last (line : Bytes) :
    (SplitN 2 (cSpace) line).head?.getD [] = nameOf line ∧
    (SplitN 2 (cSpace) line).getLast?.getD [] = titleOf line := by
  rw [splitN2 (cSpace) line (by decide)]
  unfold nameOf titleOf
  cases goIndex (cSpace) line with
  | none => simp
  | some m => simp [show cSpace.length = 1 by decide]

/-- one line: its section, with the file's content verbatim, or a failure naming the file -/
theorem convOne_spec (fs : FS) (line : Bytes) :
    convOne fs line = match fs (nameOf line) with
      | some content => .ok (sectionOf line content)
      | none => .error (cCantOpen ++ nameOf line) := by
  unfold convOne
  simp only [(cols_head_last line).1, (cols_head_last line).2]
  cases fs (nameOf line) with
  | none => rfl
  | some content => simp [sectionOf, bufWrite, bufNew, bufString, List.append_assoc]

theorem mapConv_ok (fs : FS) (lines : List Bytes) (contents : List Bytes)
    (h : lines.map (fun l => fs (nameOf l)) = contents.map some) :
    mapConv fs lines = .ok (List.zipWith sectionOf lines contents) := by
  induction lines generalizing contents with
  | nil => cases contents <;> simp_all [mapConv]
  | cons l rest ih =>
    cases contents with
    | nil => simp at h
    | cons c cs =>
      simp only [List.map_cons, List.cons.injEq] at h
      simp only [mapConv, convOne_spec, h.1, ih cs h.2, List.zipWith_cons_cons]

theorem mapConv_fail (fs : FS) (lines : List Bytes) (h : ∃ l ∈ lines, fs (nameOf l) = none) :
    ∃ msg, mapConv fs lines = .error msg := by
  induction lines with
  | nil => simp at h
  | cons l rest ih =>
    rw [mapConv, convOne_spec]
    cases hf : fs (nameOf l) with
    | none => exact ⟨_, rfl⟩
    | some c =>
      obtain ⟨msg, hm⟩ := ih (by simpa [hf] using h)
      exact ⟨msg, by simp only [hm]⟩

/-- the non-empty lines of the list file -/
def listLines (listContent : Bytes) : List Bytes :=
  (Split (cNL) listContent).filter (fun l => !l.isEmpty)

/-- **C18 (success).** README.md = the fixed header followed by one section per non-empty line of the
list, in list order, joined by a newline; each section shows the line's title, the named file's
content verbatim, and the link to gen_<base>.go -/
theorem readme_shape (fs : FS) (listContent : Bytes) (contents : List Bytes)
    (h : (listLines listContent).map (fun l => fs (nameOf l)) = contents.map some) :
    processListFile fs listContent =
      .write (header ++ List.intercalate (cNL) (List.zipWith sectionOf (listLines listContent) contents)) := by
  unfold processListFile
  have hl : (Split (cNL) listContent).filter (fun l => IsNotEmpty l) = listLines listContent := rfl
  simp only [hl, mapConv_ok fs _ contents h, AppendHead, concat_spec]

/-- **C18 (failure).** if a listed file cannot be read, nothing is written -/
theorem missing_fails (fs : FS) (listContent : Bytes)
    (h : ∃ l ∈ listLines listContent, fs (nameOf l) = none) :
    ∃ msg, processListFile fs listContent = .fail msg := by
  unfold processListFile
  have hl : (Split (cNL) listContent).filter (fun l => IsNotEmpty l) = listLines listContent := rfl
  obtain ⟨msg, hm⟩ := mapConv_fail fs _ h
  exact ⟨msg, by simp only [hl, hm]⟩

/-- non-vacuity: "a.fo My sample\n\nb.fo\n": two entries, one with a title containing a space, one
without title; the blank line is dropped -/
example :
    let l1 : Bytes := [97, 46, 102, 111, 32, 77, 121, 32, 115, 97, 109, 112, 108, 101]
    let l2 : Bytes := [98, 46, 102, 111]
    listLines (l1 ++ [10, 10] ++ l2 ++ [10]) = [l1, l2] ∧
    titleOf l1 = [77, 121, 32, 115, 97, 109, 112, 108, 101] ∧ titleOf l2 = l2 ∧ nameOf l1 = [97, 46, 102, 111] := by
  decide

end Folang.Props.C18
