import Folang.Lemmas.OffsideParse
/-
C16 (parser part) — the block parser scheme terminates on EVERY token sequence: with fuel
3 * tokens + 3 the model never runs out of fuel, whatever the tokens are (layouts or garbage), so
an answer `reject` is a real rejection and the recursion parseBlock → parseStmtList → parseStmt →
parseBlock always comes back.  The reason is the one that matters in the real code: every statement
consumes at least one token before the list loop goes round, and a nested block starts after its
opener.
-/
namespace Folang.Props.C16Block
open Folang.Offside

def StmtOK (f top : Nat) (ts : List Tok) : Prop :=
  pStmt f top ts ≠ .fuel ∧ ∀ t r, pStmt f top ts = .ok t r → r.length < ts.length
def ListOK (f top : Nat) (ts : List Tok) : Prop :=
  pList f top ts ≠ .fuel ∧ ∀ ss r, pList f top ts = .ok ss r → r.length ≤ ts.length
def BlockOK (f top : Nat) (ts : List Tok) : Prop :=
  pBlock f top ts ≠ .fuel ∧ ∀ ss r, pBlock f top ts = .ok ss r → r.length ≤ ts.length

/-- `StmtOK`, `ListOK` and `BlockOK` ask the same of an answer: here for a rejection, below for a value
with a rest `r` (`P r` is the length bound) -/
theorem fine_reject {α : Type} {P : List Tok → Prop} :
    (R.reject : R α) ≠ .fuel ∧ ∀ a r, (R.reject : R α) = .ok a r → P r :=
  ⟨nofun, nofun⟩

theorem fine_ok {α : Type} {P : List Tok → Prop} {a : α} {r : List Tok} (h : P r) :
    R.ok a r ≠ .fuel ∧ ∀ a' r', R.ok a r = .ok a' r' → P r' := by
  refine ⟨nofun, fun _ _ e => ?_⟩
  cases e
  exact h

theorem StmtOK.step {g top : Nat} {ts : List Tok}
    (hB : ∀ r : List Tok, r.length < ts.length → BlockOK g top r) : StmtOK (g + 1) top ts := by
  have htw := takeWords_length ts
  rw [StmtOK, pStmt_succ]
  split
  next c r' h =>
    rw [h, List.length_cons] at htw
    have hsk := skipEOL_length r'
    obtain ⟨hnf, hok⟩ := hB (skipEOL r') (by omega)
    cases hb : pBlock g top (skipEOL r') with
    | fuel => exact absurd hb hnf
    | reject => exact fine_reject
    | ok body r'' =>
      have := hok body r'' hb
      exact fine_ok (by omega)
  next =>
    split
    next => exact fine_reject
    next he =>
      have : (takeWords ts).1.length ≠ 0 := fun h0 => he (congrArg List.isEmpty (List.length_eq_zero_iff.mp h0))
      exact fine_ok (by omega)

theorem BlockOK.step {g top : Nat} {ts : List Tok} (hL : ListOK g (curCol ts) ts) : BlockOK (g + 1) top ts := by
  rw [BlockOK, pBlock_succ]
  split
  · exact fine_reject
  · exact hL

theorem ListOK.step {g top : Nat} {ts : List Tok} (hS : StmtOK g top ts)
    (hL : ∀ r : List Tok, r.length < ts.length → ListOK g top r) : ListOK (g + 1) top ts := by
  obtain ⟨hnf, hok⟩ := hS
  rw [ListOK, pList_succ]
  cases hs : pStmt g top ts with
  | fuel => exact absurd hs hnf
  | reject => exact fine_reject
  | ok s r =>
    have hr := hok s r hs
    have hsk := skipEOL_length r
    dsimp only
    split
    · exact fine_ok (by omega)
    · obtain ⟨hnf2, hok2⟩ := hL (skipEOL r) (by omega)
      cases hl : pList g top (skipEOL r) with
      | fuel => exact absurd hl hnf2
      | reject => exact fine_reject
      | ok ss r3 =>
        have := hok2 ss r3 hl
        exact fine_ok (by omega)

/-- Induction on the fuel: every parser calls the others with one unit less.  A statement calls the
block after its opener (one token fewer, so three units to spare), a block its list, a list its first
statement and the list after it (at least one token fewer). -/
theorem ok_of_fuel : ∀ (f : Nat),
    (∀ top ts, 3 * ts.length + 1 ≤ f → StmtOK f top ts) ∧
    (∀ top ts, 3 * ts.length + 2 ≤ f → ListOK f top ts) ∧
    (∀ top ts, 3 * ts.length + 3 ≤ f → BlockOK f top ts)
  | 0 =>
    ⟨fun _ _ h => absurd h (Nat.not_succ_le_zero _), fun _ _ h => absurd h (Nat.not_succ_le_zero _),
      fun _ _ h => absurd h (Nat.not_succ_le_zero _)⟩
  | f + 1 =>
    have ⟨hS, hL, hB⟩ := ok_of_fuel f
    ⟨fun top ts h => .step fun r hr => hB top r (by omega),
      fun top ts h => .step (hS top ts (by omega)) fun r hr => hL top r (by omega),
      fun top ts h => .step (hL _ ts (by omega))⟩

theorem all_ok : ∀ (n : Nat),
    (∀ ts : List Tok, ts.length ≤ n → ∀ top f, 3 * n + 1 ≤ f → StmtOK f top ts) ∧
    (∀ ts : List Tok, ts.length ≤ n → ∀ top f, 3 * n + 2 ≤ f → ListOK f top ts) ∧
    (∀ ts : List Tok, ts.length ≤ n → ∀ top f, 3 * n + 3 ≤ f → BlockOK f top ts) :=
  fun _ =>
    ⟨fun ts hl top f hf => (ok_of_fuel f).1 top ts (by omega),
      fun ts hl top f hf => (ok_of_fuel f).2.1 top ts (by omega),
      fun ts hl top f hf => (ok_of_fuel f).2.2 top ts (by omega)⟩

/-- the block parser never runs out of fuel 3·|tokens| + 3, for ANY token sequence and enclosing
column: it returns a block and the remaining tokens (no longer than the input), or rejects -/
theorem block_terminates (top : Nat) (ts : List Tok) :
    pBlock (3 * ts.length + 3) top ts ≠ .fuel :=
  ((ok_of_fuel _).2.2 top ts (Nat.le_refl _)).1

/-- … and the whole file, read as the statement list of the root block -/
theorem list_terminates (top : Nat) (ts : List Tok) :
    pList (3 * ts.length + 2) top ts ≠ .fuel :=
  ((ok_of_fuel _).2.1 top ts (Nat.le_refl _)).1

/-- every statement consumes at least one token (the progress that makes the loop of
`parseStmtList` end) -/
theorem stmt_progress (top : Nat) (ts : List Tok) (t : T) (r : List Tok)
    (h : pStmt (3 * ts.length + 1) top ts = .ok t r) : r.length < ts.length :=
  ((ok_of_fuel _).1 top ts (Nat.le_refl _)).2 t r h

end Folang.Props.C16Block
