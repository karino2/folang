import Folang.Generated.SliceFacts
/-
Obligations over facts regenerated from /repo/pkg/slice/slice.go on every run:
* the inventory of exported functions (with arities) is exactly the set that is modelled in
  Model/GoSlice.lean — a new or re-shaped function has no frame/spec theorem and fails here;
* the aliasing-relevant statements of every function (append targets, stores, in-place mutators,
  re-slicing returns, with parameters/locals canonically renamed) are exactly the ones the model
  transcribes — e.g. `append(s, elem)` instead of `append(s[:len(s):len(s)], elem)` fails here.
-/
namespace Folang.Props.C12

/-- (name, type parameters, parameters, results) -/
def modelledFuncs : List (String × Nat × Nat × Nat) := [
  ("Append", 1, 2, 1), ("Collect", 2, 2, 1), ("Concat", 1, 1, 1), ("Distinct", 1, 1, 1),
  ("Filter", 1, 2, 1), ("Fold", 2, 3, 1), ("Forall", 1, 2, 1), ("Forany", 1, 2, 1),
  ("Head", 1, 1, 1), ("IsEmpty", 1, 1, 1), ("IsNotEmpty", 1, 1, 1), ("Item", 1, 2, 1),
  ("Iter", 1, 2, 0), ("Last", 1, 1, 1), ("Len", 1, 1, 1), ("Length", 1, 1, 1),
  ("Map", 2, 2, 1), ("Mapi", 2, 2, 1), ("New", 1, 0, 1), ("PopLast", 1, 1, 1),
  ("PushHead", 1, 2, 1), ("PushLast", 1, 2, 1), ("Skip", 1, 2, 1), ("Sort", 1, 1, 1),
  ("SortBy", 2, 2, 1), ("Tail", 1, 1, 1), ("Take", 1, 2, 1), ("TryFind", 1, 2, 1), ("Zip", 2, 2, 1)]

def modelledShapes : List (String × List String) := [
  ("Append", ["nil:v0", "append:v0", "append:v0"]),
  ("Collect", ["nil:v0", "range:p1", "init:v2:p0(v1)", "append:v0"]),
  ("Concat", ["nil:v0", "range:p0", "append:v0"]),
  ("Distinct", ["init:v0:make(map[T]bool)", "init:v1:[]T{}", "range:p0", "append:v1", "store:v0"]),
  ("Filter", ["nil:v0", "range:p1", "append:v0"]),
  ("Fold", ["range:p2"]),
  ("Forall", ["range:p1"]),
  ("Forany", ["range:p1"]),
  ("Head", []), ("IsEmpty", []), ("IsNotEmpty", []), ("Item", []),
  ("Iter", ["range:p1"]),
  ("Last", []), ("Len", []), ("Length", []),
  ("Map", ["nil:v0", "range:p1", "append:v0"]),
  ("Mapi", ["nil:v0", "range:p1", "append:v0"]),
  ("New", []),
  ("PopLast", ["return:p0[0:(len(p0) - 1)]"]),
  ("PushHead", ["init:v0:[]T{p0}", "append:v0"]),
  ("PushLast", ["append:p1[:len(p1):len(p1)]"]),
  ("Skip", ["nil:v0", "append:v0"]),
  ("Sort", ["init:v0:append(p0[:0:0], p0...)", "append:p0[:0:0]", "mutate:slices.SortFunc:v0"]),
  ("SortBy", ["init:v0:append(p1[:0:0], p1...)", "append:p1[:0:0]", "mutate:slices.SortFunc:v0"]),
  ("Tail", ["return:p0[1:]"]),
  ("Take", ["nil:v0", "append:v0"]),
  ("TryFind", ["range:p1"]),
  ("Zip", ["nil:v0", "range:p0", "append:v0"])]

theorem fact_sliceFuncs : Folang.Generated.sliceFuncs = modelledFuncs := rfl

theorem fact_sliceShapes : Folang.Generated.sliceShapes = modelledShapes := rfl

end Folang.Props.C12
