import Folang.Model.Decl
/-
C03 — declarations and foreign calls follow the documented Go representation.

All theorems are about the structural model of the emitters (Model/Decl.lean), for ALL names, type
parameters, field and payload types and arities.
-/
namespace Folang.Props.C03
open Folang.Decl Folang.TypeExpr

/-- a record is a struct with the same field names and mapped field types, in order -/
theorem record_shape (rd : RecordDef) :
    rdfToGo rd = .struct rd.name rd.tparams (rd.fields.map (fun f => (f.1, toGo f.2))) ∧
    (match rdfToGo rd with | .struct _ _ fs => fs.map (·.1) = rd.fields.map (·.1) | _ => False) := by
  refine ⟨rfl, ?_⟩
  simp [rdfToGo, List.map_map, Function.comp_def]

/-- union U: interface U first -/
theorem union_interface (ud : UnionDef) : (udfToGo ud).head? = some (.iface ud.name ud.tparams (ud.name ++ "_Union")) := rfl

theorem case_decls (ud : UnionDef) (c : String × FT) (hc : c ∈ ud.cases) :
    GoDecl.struct (ud.name ++ "_" ++ c.1) ud.tparams (if isUnit c.2 then [] else [("Value", toGo c.2)]) ∈ udfToGo ud ∧
    (if csIsVar ud.tparams c.2 then GoDecl.var ("New_" ++ (ud.name ++ "_" ++ c.1)) ud.name
     else .func ("New_" ++ (ud.name ++ "_" ++ c.1)) ud.tparams (if isUnit c.2 then [] else [("v", toGo c.2)])
       (ud.name ++ tparamStr ud.tparams)) ∈ udfToGo ud :=
  have h {d} (hd : d ∈ _) : d ∈ udfToGo ud := List.mem_cons_of_mem _ (List.mem_flatMap.mpr ⟨c, hc, hd⟩)
  ⟨h List.mem_cons_self, h (List.mem_cons_of_mem _ List.mem_cons_self)⟩

theorem csIsVar_true {tps : List String} {p : FT} : csIsVar tps p = true ↔ isUnit p = true ∧ tps = [] := by
  simp [csIsVar]

theorem csIsVar_false {tps : List String} {p : FT} : csIsVar tps p = false ↔ isUnit p = false ∨ tps ≠ [] := by
  rw [← Bool.not_eq_true, csIsVar_true]
  cases isUnit p <;> simp

/-- case C of U: struct U_C whose payload is field `Value` (no field without payload) -/
theorem union_case_struct (ud : UnionDef) (c : String × FT) (hc : c ∈ ud.cases) :
    GoDecl.struct (ud.name ++ "_" ++ c.1) ud.tparams (if isUnit c.2 then [] else [("Value", toGo c.2)]) ∈ udfToGo ud :=
  (case_decls ud c hc).1

/-- New_U_C is a function when the case has a payload or U is generic … -/
theorem ctor_is_func (ud : UnionDef) (c : String × FT) (hc : c ∈ ud.cases)
    (h : isUnit c.2 = false ∨ ud.tparams ≠ []) :
    GoDecl.func ("New_" ++ (ud.name ++ "_" ++ c.1)) ud.tparams (if isUnit c.2 then [] else [("v", toGo c.2)])
      (ud.name ++ tparamStr ud.tparams) ∈ udfToGo ud := by
  have hd := (case_decls ud c hc).2
  rwa [csIsVar_false.mpr h] at hd

/-- … and a package variable of type U otherwise -/
theorem ctor_is_var (ud : UnionDef) (c : String × FT) (hc : c ∈ ud.cases)
    (h1 : isUnit c.2 = true) (h2 : ud.tparams = []) :
    GoDecl.var ("New_" ++ (ud.name ++ "_" ++ c.1)) ud.name ∈ udfToGo ud := by
  have hd := (case_decls ud c hc).2
  rwa [csIsVar_true.mpr ⟨h1, h2⟩] at hd

/-- what a constructor reference resolves to (csRegisterCtor) agrees with what is declared
(csConstruct): variable ↔ variable, function ↔ function of the same name whose parameter list is the
payload (a unit payload = no Go parameter) -/
theorem ctor_ref_matches_decl (ud : UnionDef) (c : String × FT) (hc : c ∈ ud.cases) :
    match csRegisterCtor ud c with
    | .var n => GoDecl.var n ud.name ∈ udfToGo ud
    | .func n ps => ps = [c.2] ∧
        GoDecl.func n ud.tparams (if isUnit c.2 then [] else [("v", toGo c.2)]) (ud.name ++ tparamStr ud.tparams) ∈ udfToGo ud := by
  have hd := (case_decls ud c hc).2
  unfold csRegisterCtor
  by_cases hv : csIsVar ud.tparams c.2 = true
  · rw [if_pos hv] at hd ⊢
    exact hd
  · rw [if_neg hv] at hd ⊢
    exact ⟨rfl, hd⟩

/-- a function declared in package_info is called by its declared name, package-qualified unless
the package is `_` -/
theorem qualified_name (pkg name : String) :
    piFullName pkg name = if pkg = "_" then name else pkg ++ "." ++ name := rfl

/-- a saturated call is a direct call; a lone `()` argument is dropped -/
theorem fcToGo_saturated (fc : FunCall) (h : fc.args.length = fc.paramTypes.length) :
    fcToGo fc = some (.call fc.callee (if fc.unitArgOnly then [] else fc.args)) := by
  simp [fcToGo, h]

/-- the statement that says WHEN the closure of an under-application is wrapped: given arguments that are not
inert are bound first (fix 9abc13f); `call_partial_bound` leaves it open -/
theorem fcToGo_partial (fc : FunCall) (h : fc.args.length < fc.paramTypes.length) :
    fcToGo fc = some (
      let pa := paArgs 0 fc.args fc.inert
      let names := restNames (fc.paramTypes.length - fc.args.length)
      let clo := GoExpr.closure (names.zip ((fc.paramTypes.drop fc.args.length).map toGo)) (toGo fc.result)
        (!isUnit fc.result) fc.callee (pa.1 ++ names)
      if pa.2.isEmpty then clo else .bound pa.2 clo) := by
  simp only [fcToGo, h, Nat.not_lt_of_gt h, if_true, if_false, List.length_drop]

/-- full application: a direct call with all arguments in source order -/
theorem call_full (fc : FunCall) (h : fc.args.length = fc.paramTypes.length) (hu : fc.unitArgOnly = false) :
    fcToGo fc = some (.call fc.callee fc.args) := by
  rw [fcToGo_saturated fc h, hu]
  rfl

/-- the closure inside the emitted expression (a partial application whose given arguments are not all
inert is wrapped in the bindings that evaluate them first) -/
def cloOf : GoExpr → GoExpr
  | .bound _ c => c
  | e => e

theorem paArgs_inert (i : Nat) (args : List String) (inert : List Bool) (h : ∀ b ∈ inert, b = true) :
    paArgs i args inert = (args, []) := by
  induction args generalizing i inert with
  | nil => rfl
  | cons a as ih =>
    have hh : inert.headD true = true := by
      cases inert with
      | nil => rfl
      | cons b bs => exact h b List.mem_cons_self
    rw [paArgs, ih _ _ fun b hb => h b (List.mem_of_mem_tail hb), if_pos hh]

theorem paArgs_length : ∀ (i : Nat) (args : List String) (inert : List Bool), (paArgs i args inert).1.length = args.length := by
  intro i args
  induction args generalizing i with
  | nil => intro inert; rfl
  | cons a as ih =>
    intro inert
    simp only [paArgs]
    split <;> simp [ih]

/-- under-application with inert given arguments (literals, variables, …): a closure whose parameters
are exactly the missing parameter types, in order, named _r0, _r1, …; its body calls the callee with
the given arguments in source order followed by the closure parameters; the result type is the
declared result (no `return` when it is unit) -/
theorem call_partial (fc : FunCall) (h : fc.args.length < fc.paramTypes.length) (hin : ∀ b ∈ fc.inert, b = true) :
    fcToGo fc = some (.closure
      ((restNames (fc.paramTypes.length - fc.args.length)).zip ((fc.paramTypes.drop fc.args.length).map toGo))
      (toGo fc.result) (!isUnit fc.result) fc.callee
      (fc.args ++ restNames (fc.paramTypes.length - fc.args.length))) := by
  rw [fcToGo_partial fc h, paArgs_inert 0 fc.args fc.inert hin]
  rfl

/-- under-application in general: the same closure over what `paArgs` leaves for each given argument
(itself, or the name `_p i` it was bound to), wrapped in the bindings — in argument order — when there
are any (the given arguments are evaluated once, where the partial application stands) -/
theorem call_partial_bound (fc : FunCall) (h : fc.args.length < fc.paramTypes.length) :
    ∃ e, fcToGo fc = some e ∧
      cloOf e = .closure
        ((restNames (fc.paramTypes.length - fc.args.length)).zip ((fc.paramTypes.drop fc.args.length).map toGo))
        (toGo fc.result) (!isUnit fc.result) fc.callee
        ((paArgs 0 fc.args fc.inert).1 ++ restNames (fc.paramTypes.length - fc.args.length)) ∧
      (e = cloOf e ∨ e = .bound (paArgs 0 fc.args fc.inert).2 (cloOf e)) := by
  simp only [fcToGo_partial fc h]
  cases (paArgs 0 fc.args fc.inert).2.isEmpty with
  | true => exact ⟨_, rfl, rfl, Or.inl rfl⟩
  | false => exact ⟨_, rfl, rfl, Or.inr rfl⟩

/-- explicit type arguments given at the call site are carried by the emitted callee in every call
form: `f[T1, T2](…)` directly, and inside the closure of an under-application / pipe -/
theorem call_carries_type_args (fc : FunCall) (t : FT) (ts : List FT) (h : fc.targs = t :: ts)
    (hle : fc.args.length ≤ fc.paramTypes.length) :
    ∃ e, fcToGo fc = some e ∧
      (match cloOf e with
       | .call c _ => c | .closure _ _ _ c _ => c | .bound _ _ => "") = fc.name ++ "[" ++ ", ".intercalate ((t :: ts).map toGo) ++ "]" := by
  have hc : fc.callee = fc.name ++ "[" ++ ", ".intercalate ((t :: ts).map toGo) ++ "]" := by
    simp [FunCall.callee, varRefToGo, h]
  rcases Nat.lt_or_eq_of_le hle with hlt | heq
  · obtain ⟨e, he, hclo, _⟩ := call_partial_bound fc hlt
    exact ⟨e, he, by rw [hclo]; exact hc⟩
  · exact ⟨_, fcToGo_saturated fc heq, hc⟩

/-- without explicit type arguments the callee is the bare (qualified) name -/
theorem call_no_type_args (fc : FunCall) (h : fc.targs = []) : fc.callee = fc.name := by
  simp [FunCall.callee, varRefToGo, h]

theorem restNames_length (n : Nat) : (restNames n).length = n := by simp [restNames]

/-- the closure takes exactly the missing parameters -/
theorem call_partial_arity (fc : FunCall) (h : fc.args.length < fc.paramTypes.length) :
    ∃ e ps r hr c as, fcToGo fc = some e ∧ cloOf e = .closure ps r hr c as ∧
      ps.length = fc.paramTypes.length - fc.args.length ∧ as.length = fc.paramTypes.length := by
  obtain ⟨e, he, hclo, _⟩ := call_partial_bound fc h
  refine ⟨e, _, _, _, _, _, he, hclo, ?_, ?_⟩
  · simp [restNames_length, List.length_drop]
  · simp [restNames_length, paArgs_length]; omega

/-- too many arguments is rejected -/
theorem call_too_many (fc : FunCall) (h : fc.paramTypes.length < fc.args.length) : fcToGo fc = none := by
  simp [fcToGo, h]

/-- a top-level let with parameters is a package func: parameters in order, a unit parameter is no
parameter, a unit result is no result -/
theorem root_func_shape (name : String) (tps : List String) (params : List (String × FT)) (result : FT) :
    rfdSignature name tps params result =
      .func name tps ((params.filter (fun p => !isUnit p.2)).map (fun p => (p.1, toGo p.2))) (toGo result) := rfl

theorem unit_result_is_no_result (name : String) (tps : List String) (params : List (String × FT)) :
    (match rfdSignature name tps params .unit with | .func _ _ _ r => r = "" | _ => False) := rfl

/-- non-vacuity: a generic union with a payload-less case gets a FUNCTION constructor for it, a
non-generic one a VARIABLE -/
example : csIsVar ["T"] .unit = false ∧ csIsVar [] .unit = true ∧ csIsVar [] .int = false := by decide

end Folang.Props.C03
