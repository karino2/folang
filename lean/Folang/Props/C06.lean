import Folang.Model.Tokenizer
import Folang.Lemmas.TokBlanks
/-
C06 — only relative indentation and line structure matter (offside rule).  (PARTIAL)

Proved (all byte strings, all reachable tokenizer states):
  `col_invariant` — the column the parser sees for the current token is
      current.begin − (end of the last EOL *token* before it, or 0),
  i.e. exactly the physical column whenever no newline hides inside a comment or literal between
  that EOL token and the current token.  The hypothesis is forced: a block comment containing a
  newline, followed by code on the same line, gives a wrong column (known finding D10), and `$"…"`
  tokens begin one byte late (known finding D13; the existing suite forbids the repair).
  `indent_shift` — indenting a line by k more blanks changes NOTHING about its first token except
      its position: after an EOL token, the tokenizer on  pre ++ (k blanks) ++ s  returns the same
      token as on  pre ++ s , with `col` and `begin` larger by exactly k (all byte strings `pre`, `s`,
      all k; comments and tabs in `s` included; an unterminated comment panics in both);
  `scan_blanks`, `nextNonSpace_blanks` (Lemmas/TokBlanks.lean) — blanks in front of any position
      merge into one SPACE token that is exactly k bytes longer, the next token is unchanged.
NOT proved (stated): `C06_full` — the emitted Go is invariant under every re-layout of the layout
grammar.  It is tied by the layout stream (one abstract program under many random layouts through the
real compiler, byte-identical output required) and the dedent test.
-/
namespace Folang.Props.C06
open Folang.Tokenizer

/-- full statement over an abstract renderer: all layouts of one abstract program give the same Go -/
def C06_full {Prog Layout : Type} (render : Layout → Prog → List UInt8) (fc : List UInt8 → Option String) : Prop :=
  ∀ p l l', fc (render l p) = fc (render l' p)

/-- where the line of the NEXT token starts, given where the current line starts: after an EOL token
the next line starts right after it -/
def lineStartAfter (z : Tkz) (ls : Nat) : Nat :=
  if z.cur.kind = "EOL" then z.bpos + z.cur.len else ls

def ColInv (z : Tkz) (ls : Nat) : Prop := z.col = (z.bpos : Int) - (ls : Int)

theorem col_invariant_init (buf : List UInt8) (z : Tkz) (h : newTkz buf = some z) : ColInv z 0 := by
  obtain ⟨r, -, rfl⟩ := Option.map_eq_some_iff.mp (newTkz_eq buf ▸ h)
  exact (Int.sub_zero _).symm

theorem col_invariant_step (z z' : Tkz) (ls : Nat) (inv : ColInv z ls) (h : tkzNext z = some z') :
    ColInv z' (lineStartAfter z ls) := by
  by_cases heof : z.cur.kind = "EOF"
  · have hz : tkzNext z = some z := by simp only [tkzNext, if_pos heof]
    cases hz.symm.trans h
    have : ¬ (z.cur.kind = "EOL") := by rw [heof]; decide
    simpa only [lineStartAfter, if_neg this] using inv
  · rw [tkzNext_of_ne_eof heof] at h
    obtain ⟨r, -, rfl⟩ := Option.map_eq_some_iff.mp h
    unfold ColInv lineStartAfter Tkz.moveTo at *
    split
    · -- the next token's column is counted from the byte after the EOL token
      rfl
    · show z.col + ((r.1 : Int) - z.bpos) = (r.1 : Int) - ls
      rw [inv]
      omega

/-- run `tkzNext` n times, threading the ghost line start -/
def iter : Nat → Tkz × Nat → Option (Tkz × Nat)
  | 0, s => some s
  | n + 1, (z, ls) =>
    match tkzNext z with
    | none => none
    | some z' => iter n (z', lineStartAfter z ls)

theorem col_invariant (buf : List UInt8) (z0 : Tkz) (h0 : newTkz buf = some z0) :
    ∀ n z ls, iter n (z0, 0) = some (z, ls) → ColInv z ls := by
  have gen : ∀ n (s : Tkz × Nat), ColInv s.1 s.2 → ∀ z ls, iter n s = some (z, ls) → ColInv z ls := by
    intro n
    induction n with
    | zero => intro s inv z ls h; simp only [iter, Option.some.injEq] at h; subst h; exact inv
    | succ k ih =>
      intro s inv z ls h
      obtain ⟨zz, l0⟩ := s
      simp only [iter] at h
      cases hn : tkzNext zz with
      | none => rw [hn] at h; cases h
      | some z' =>
        rw [hn] at h
        exact ih (z', lineStartAfter zz l0) (col_invariant_step zz z' l0 inv hn) z ls h
  intro n z ls h
  exact gen n (z0, 0) (col_invariant_init buf z0 h0) z ls h

/-- non-vacuity: the buffer "1\n 2\n" tokenises, and after two steps the token `2` has column 1 -/
example : (newTkz [49, 10, 32, 50, 10]).isSome = true := by decide
example : ((newTkz [49, 10, 32, 50, 10]).bind (fun z0 => iter 2 (z0, 0))).map (fun s => (s.1.cur.kind, s.1.col, s.2)) =
    some ("INT_IMM", 1, 2) := by decide

/-! ### indentation only shifts columns -/

open Folang.Literal in
/-- two tokenizer states at the same EOL token, over buffers that differ only by `k` blanks inserted
right after it -/
structure IndentPair (pre s : Bytes) (k : Nat) (z z0 : Tkz) : Prop where
  buf : z.buf = pre ++ (blanks k ++ s)
  buf0 : z0.buf = pre ++ s
  eol : z.cur.kind = "EOL"
  cur : z0.cur = z.cur
  pos : z0.bpos = z.bpos
  ends : z.bpos + z.cur.len = pre.length

open Folang.Literal in
/-- **indent_shift**: the first token of the next line is the same token; its column and its begin
are larger by exactly the number of blanks added in front of the line -/
theorem indent_shift (pre s : Bytes) (k : Nat) (z z0 : Tkz) (h : IndentPair pre s k z z0) :
    (tkzNext z).map (fun z' => (z'.cur, z'.col, z'.bpos)) =
      (tkzNext z0).map (fun z1 => (z1.cur, z1.col + (k : Int), z1.bpos + k)) := by
  obtain ⟨hb, hb0, heol, hcur, hpos, hends⟩ := h
  have hne : z.cur.kind ≠ "EOF" := by rw [heol]; decide
  have hdrop : z.buf.drop pre.length = blanks k ++ s := by rw [hb, List.drop_left]
  have hdrop0 : z0.buf.drop pre.length = s := by rw [hb0, List.drop_left]
  have hlen : z.buf.length = pre.length + (blanks k ++ s).length := by rw [hb, List.length_append]
  have hlen0 : z0.buf.length = pre.length + s.length := by rw [hb0, List.length_append]
  have hin : z.bpos + z.cur.len ≤ z.buf.length := by rw [hends, hlen]; exact Nat.le_add_right _ _
  have hin0 : z0.bpos + z0.cur.len ≤ z0.buf.length := by rw [hcur, hpos, hends, hlen0]; exact Nat.le_add_right _ _
  -- both states stand at the end of `pre`; the blanks only move where the next token begins
  rw [tkzNext_inside hne hin, tkzNext_inside (hcur ▸ hne) hin0, hcur, hpos, hends, hdrop, hdrop0,
    nextNonSpace_blanks k s pre.length _ (z0.buf.length + 2) (by omega) (by omega), nextNonSpace_off (Nat.le_add_left 2 _)]
  simp only [Option.map_map]
  congr 1
  funext r
  simp only [Function.comp, Tkz.moveTo, hcur, hpos, hends, if_pos heol, Prod.mk.injEq, true_and, and_true]
  omega

/-- non-vacuity: after the EOL of "a\n", the line "b" indented by three blanks vs. not indented -/
def zInd : Tkz := { buf := [97, 10, 32, 32, 32, 98], cur := { kind := "EOL", len := 1 }, bpos := 1, col := 1 }
def zFlat : Tkz := { buf := [97, 10, 98], cur := { kind := "EOL", len := 1 }, bpos := 1, col := 1 }

example : IndentPair [97, 10] [98] 3 zInd zFlat :=
  ⟨by decide, by decide, rfl, rfl, rfl, by decide⟩

example : (tkzNext zInd).map (fun z => (z.col, z.bpos)) = some (3, 5) ∧
    (tkzNext zFlat).map (fun z => (z.col, z.bpos)) = some (0, 2) := by
  constructor <;> decide

end Folang.Props.C06
