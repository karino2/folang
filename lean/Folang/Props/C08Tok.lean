import Folang.Props.C08
/-
C08, token level: `parseExprWithPrec` / `parseBinAfter` with their `psSkipEOL` calls (model
`exprP` / `binAfter`, generic in the term parser) compute exactly the chain-level function `climb`
on the operator chain the tokens spell, whatever ends of line stand before the operators.  When they
stop at an operator that is too loose, the state they return is the one AFTER the ends of line before
it (`parseBinAfter` is handed the state after `psSkipEOL` and returns the state it was handed); when
no operator follows, it is the state BEFORE the ends of line.

The simulation (`C08R.binAfter_climb`) asks of the term parser only that it reads the operands of
a class `Sop` before tokens of a class `EndT`, which is what a concrete term parser satisfies
(Props/C08Term.lean); `tokSim` and `exprP_eq_group` are the case where both classes are everything.
The R of namespace `C08R` and of `exprP_eq_groupR` stands for this relativisation to `Sop` and `EndT`.
-/
namespace Folang.Props.C08
open Folang.Prec
variable {α : Type} (prec : Nat → Nat)

/-- the tokens of an operator chain: before each operator any number of ends of line, then the
operator, then the tokens of its right operand -/
def chainToks (T : α → List Tok) : List (Nat × Nat × α) → List Tok
  | [] => []
  | (eols, k, a) :: rest => List.replicate eols .eol ++ (.op k :: (T a ++ chainToks T rest))

def strip (c : List (Nat × Nat × α)) : List (Nat × α) := c.map (·.2)

/-- the decorated chain of a tree rendered without ends of line -/
def dec (c : List (Nat × α)) : List (Nat × Nat × α) := c.map (fun e => (0, e.1, e.2))

theorem strip_dec (c : List (Nat × α)) : strip (dec c) = c := by
  simp [strip, dec, List.map_map, Function.comp_def]

theorem chainToks_append (T : α → List Tok) (c1 c2 : List (Nat × Nat × α)) :
    chainToks T (c1 ++ c2) = chainToks T c1 ++ chainToks T c2 := by
  induction c1 with
  | nil => rfl
  | cons e c1 ih => obtain ⟨eols, k, a⟩ := e; simp [chainToks, ih]

theorem skipEOL_replicate (n : Nat) (ts : List Tok) : skipEOL (List.replicate n .eol ++ ts) = skipEOL ts := by
  induction n with
  | zero => rfl
  | succ n ih => simp [List.replicate_succ, skipEOL, ih]

/-- what follows the chain does not continue it: after its ends of line there is no operator -/
def Ends (rest : List Tok) : Prop := ∀ k r, skipEOL rest ≠ .op k :: r

theorem skipEOL_op (k : Nat) (r : List Tok) : skipEOL (.op k :: r) = .op k :: r := by simp [skipEOL]

variable (pTerm : List Tok → Option (α × List Tok)) (T : α → List Tok)

/-- a decorated chain whose first operator has no ends of line before it (or the empty chain) -/
def ZL : List (Nat × Nat × α) → Prop
  | [] => True
  | (e, _, _) :: _ => e = 0

def zeroLead : List (Nat × Nat × α) → List (Nat × Nat × α)
  | [] => []
  | (_, k, a) :: r => (0, k, a) :: r

theorem zeroLead_ZL (c : List (Nat × Nat × α)) : ZL (zeroLead c) := by
  cases c with
  | nil => trivial
  | cons e r => obtain ⟨_, _, _⟩ := e; rfl

theorem strip_zeroLead (c : List (Nat × Nat × α)) : strip (zeroLead c) = strip c := by
  cases c with
  | nil => rfl
  | cons e r => obtain ⟨_, _, _⟩ := e; rfl

theorem length_zeroLead (c : List (Nat × Nat × α)) : (zeroLead c).length = c.length := by
  cases c with
  | nil => rfl
  | cons e r => obtain ⟨_, _, _⟩ := e; rfl

theorem skipEOL_chain (c : List (Nat × Nat × α)) (rest : List Tok) (hne : c ≠ []) :
    skipEOL (chainToks T c ++ rest) = chainToks T (zeroLead c) ++ rest := by
  cases c with
  | nil => exact absurd rfl hne
  | cons e r =>
    obtain ⟨eols, k, a⟩ := e
    simp only [chainToks, zeroLead, List.append_assoc, List.cons_append, List.replicate_zero, List.nil_append]
    rw [skipEOL_replicate, skipEOL_op]

theorem chainToks_cons_zero (k : Nat) (a : α) (c : List (Nat × Nat × α)) (rest : List Tok) :
    chainToks T ((0, k, a) :: c) ++ rest = .op k :: (T a ++ (chainToks T c ++ rest)) := by
  simp only [chainToks, List.replicate_zero, List.nil_append, List.cons_append, List.append_assoc]

/-- how both parsers see `Ends`: their `match` on the state after `skipEOL` takes the last branch -/
theorem skipEOL_ends {ps : List Tok} (h : Ends ps) {β : Type} (f : Nat → List Tok → β) (b : β) :
    (match skipEOL ps with | .op k :: r => f k r | _ => b) = b := by
  match hs : skipEOL ps with
  | [] => rfl
  | .eol :: _ => rfl
  | .other _ :: _ => rfl
  | .op k :: r => exact absurd hs (h k r)

theorem bin_nil (F m : Nat) (cur : G α) (rest : List Tok) (hF : 1 ≤ F) (hends : Ends rest) :
    exprP.binAfter pTerm prec F m rest cur = some (cur, rest) := by
  cases F with
  | zero => omega
  | succ F =>
    rw [exprP.binAfter]
    exact skipEOL_ends hends _ _

theorem binAfter_stop {ps r : List Tok} {k m : Nat} (hs : skipEOL ps = .op k :: r) (h : prec k < m)
    (F : Nat) (cur : G α) : exprP.binAfter pTerm prec (F + 1) m ps cur = some (cur, ps) := by
  rw [exprP.binAfter, hs]
  exact if_pos h

theorem binAfter_take {ps r ps3 : List Tok} {k m F : Nat} {rhs : G α} (hs : skipEOL ps = .op k :: r)
    (h : ¬ prec k < m) (hr : exprP pTerm prec F (prec k + 1) r = some (rhs, ps3)) (cur : G α) :
    exprP.binAfter pTerm prec (F + 1) m ps cur = exprP.binAfter pTerm prec F m ps3 (.bin k cur rhs) := by
  rw [exprP.binAfter, hs]
  simp only [h, if_false, hr]

theorem exprP_ends {ps ps2 : List Tok} {a : α} (ht : pTerm ps = some (a, ps2)) (h : Ends ps2) (F m : Nat) :
    exprP pTerm prec (F + 1) m ps = some (.atom a, ps2) := by
  rw [exprP, ht]
  exact skipEOL_ends h _ _

theorem exprP_op {ps ps2 r : List Tok} {a : α} {k : Nat} (ht : pTerm ps = some (a, ps2))
    (hs : skipEOL ps2 = .op k :: r) (F m : Nat) :
    exprP pTerm prec (F + 1) m ps = exprP.binAfter pTerm prec F m (.op k :: r) (.atom a) := by
  rw [exprP, ht]
  simp only [hs]

end Folang.Props.C08

namespace Folang.Props.C08R
open Folang.Prec Folang.Props.C08
variable {α : Type} (prec : Nat → Nat)
variable (pTerm : List Tok → Option (α × List Tok)) (T : α → List Tok)
variable (Sop : α → Prop) (EndT : List Tok → Prop)

/-- `EndT` contains everything that can follow an operand inside a chain (an end of line, an operator) -/
structure TermOK : Prop where
  reads : ∀ a, Sop a → ∀ r, EndT r → pTerm (T a ++ r) = some (a, r)
  eol : ∀ r, EndT (.eol :: r)
  op : ∀ k r, EndT (.op k :: r)

theorem endT_chain (h : TermOK pTerm T Sop EndT) (c : List (Nat × Nat × α)) (rest : List Tok) (hr : EndT rest) :
    EndT (chainToks T c ++ rest) := by
  cases c with
  | nil => simpa [chainToks] using hr
  | cons e c' =>
    obtain ⟨eols, k, a⟩ := e
    cases eols with
    | zero => simp only [chainToks, List.replicate_zero, List.nil_append, List.cons_append]; exact h.op _ _
    | succ n => simp only [chainToks, List.replicate_succ, List.cons_append]; exact h.eol _

theorem exprP_chain (h : TermOK pTerm T Sop EndT) {a0 : α} (ha0 : Sop a0) (c : List (Nat × Nat × α))
    {rest : List Tok} (hends : Ends rest) (hendT : EndT rest) (F m : Nat) :
    exprP pTerm prec (F + 2) m (T a0 ++ (chainToks T c ++ rest)) =
      exprP.binAfter pTerm prec (F + 1) m (chainToks T (zeroLead c) ++ rest) (.atom a0) := by
  have hread := h.reads a0 ha0 _ (endT_chain pTerm T Sop EndT h c rest hendT)
  match c with
  | [] =>
    rw [exprP_ends prec pTerm hread hends]
    exact (bin_nil prec pTerm (F + 1) m _ rest (Nat.succ_pos F) hends).symm
  | e :: c =>
    have hs := skipEOL_chain T (e :: c) rest (List.cons_ne_nil _ _)
    rw [zeroLead, chainToks_cons_zero] at hs ⊢
    exact exprP_op prec pTerm hread hs ..

/-- **`parseBinAfter` on tokens is `climb` on the chain they spell**, for every fuel `f` of `climb`
that exceeds the length of the chain (both recursive calls of `climb` use the same `f`, so the
induction is on `f`).  What `climb` leaves is again spelled by a chain `c2` without leading ends of
line: the code passes the state after `psSkipEOL` to `parseBinAfter`. -/
theorem binAfter_climb (h : TermOK pTerm T Sop EndT) {rest : List Tok} (hends : Ends rest) (hendT : EndT rest) :
    ∀ (f : Nat) (c : List (Nat × Nat × α)), c.length < f → ZL c → (∀ e ∈ strip c, Sop e.2) →
    ∀ (F m : Nat) (cur : G α), 2 * c.length + 1 ≤ F →
    ∃ c2, ZL c2 ∧ strip c2 = (climb prec f m cur (strip c)).2 ∧
      exprP.binAfter pTerm prec F m (chainToks T c ++ rest) cur =
        some ((climb prec f m cur (strip c)).1, chainToks T c2 ++ rest) := by
  intro f
  induction f with
  | zero =>
    intro c hc
    exact absurd hc (Nat.not_lt_zero _)
  | succ f ih =>
    intro c hc hz hall F m cur hF
    match c with
    | [] => exact ⟨[], trivial, rfl, bin_nil prec pTerm F m cur rest hF hends⟩
    | (eols, k, a) :: c =>
      cases (hz : eols = 0)
      have hc : c.length < f := Nat.lt_of_succ_lt_succ hc
      have hF : 2 * c.length + 3 ≤ F := hF
      obtain ⟨F, rfl⟩ := Nat.exists_eq_add_of_le' (Nat.le_trans (Nat.le_add_left 3 _) hF)
      have hs : skipEOL (chainToks T ((0, k, a) :: c) ++ rest) = .op k :: (T a ++ (chainToks T c ++ rest)) := by
        rw [chainToks_cons_zero]
        exact skipEOL_op ..
      have hall : ∀ e ∈ (k, a) :: strip c, Sop e.2 := hall
      show ∃ c2, _ ∧ strip c2 = (climb prec (f + 1) m cur ((k, a) :: strip c)).2 ∧
        _ = some ((climb prec (f + 1) m cur ((k, a) :: strip c)).1, _)
      by_cases hlt : prec k < m
      · rw [climb_stop prec hlt]
        exact ⟨(0, k, a) :: c, rfl, rfl, binAfter_stop prec pTerm hs hlt ..⟩
      · -- the right operand: `parseExprWithPrec (prec k + 1)`, i.e. `parseBinAfter` from the atom `a`
        obtain ⟨cr, hzr, hcr, hexpr⟩ := ih (zeroLead c) (by rw [length_zeroLead]; exact hc) (zeroLead_ZL c)
          (by rw [strip_zeroLead]; exact fun e he => hall e (List.mem_cons_of_mem _ he))
          (F + 1) (prec k + 1) (.atom a)
          (by rw [length_zeroLead]; exact Nat.le_of_succ_le_succ (Nat.le_of_succ_le_succ hF))
        rw [strip_zeroLead] at hcr hexpr
        rw [← exprP_chain prec pTerm T Sop EndT h (hall _ List.mem_cons_self) c hends hendT] at hexpr
        -- the loop goes on with what the right operand left, a suffix of the chain
        have hsuf := climb_suffix prec f (prec k + 1) (.atom a) (strip c)
        rw [← hcr] at hsuf
        have hlen : cr.length ≤ c.length := by simpa [strip] using hsuf.length_le
        obtain ⟨c2, hz2, hc2, hloop⟩ := ih cr (Nat.lt_of_le_of_lt hlen hc) hzr
          (fun e he => hall e (List.mem_cons_of_mem _ (hsuf.subset he))) (F + 2) m
          (.bin k cur (climb prec f (prec k + 1) (.atom a) (strip c)).1) (by omega)
        rw [climb_take prec hlt, ← hcr]
        refine ⟨c2, hz2, hc2, ?_⟩
        rw [binAfter_take prec pTerm hs hlt hexpr]
        exact hloop

theorem exprP_climb (h : TermOK pTerm T Sop EndT) {rest : List Tok} (hends : Ends rest) (hendT : EndT rest)
    (c : List (Nat × Nat × α)) (hall : ∀ e ∈ strip c, Sop e.2) {a0 : α} (ha0 : Sop a0) (F m : Nat)
    (hF : 2 * c.length + 2 ≤ F) :
    ∃ c2, ZL c2 ∧ strip c2 = (climb prec (c.length + 1) m (.atom a0) (strip c)).2 ∧
      exprP pTerm prec F m (T a0 ++ (chainToks T c ++ rest)) =
        some ((climb prec (c.length + 1) m (.atom a0) (strip c)).1, chainToks T c2 ++ rest) := by
  obtain ⟨F, rfl⟩ := Nat.exists_eq_add_of_le' (Nat.le_trans (Nat.le_add_left 2 _) hF)
  rw [exprP_chain prec pTerm T Sop EndT h ha0 c hends hendT, ← strip_zeroLead c, ← length_zeroLead c]
  exact binAfter_climb prec pTerm T Sop EndT h hends hendT _ _ (Nat.lt_succ_self _) (zeroLead_ZL c)
    (by rw [strip_zeroLead]; exact hall) _ m _ (by rw [length_zeroLead]; exact Nat.le_of_succ_le_succ hF)

theorem exprP_eq_groupR (h : TermOK pTerm T Sop EndT) (a0 : α) (c : List (Nat × Nat × α))
    (ha0 : Sop a0) (hall : ∀ e ∈ strip c, Sop e.2) (rest : List Tok) (hends : Ends rest) (hendT : EndT rest)
    (m : Nat) (hm : ∀ e ∈ strip c, m ≤ prec e.1) (F : Nat) (hF : 2 * c.length + 2 ≤ F) :
    exprP pTerm prec F m (T a0 ++ (chainToks T c ++ rest)) = some (group prec (.atom a0) (strip c), rest) := by
  obtain ⟨c2, _, hs2, hx⟩ := exprP_climb prec pTerm T Sop EndT h hends hendT c hall ha0 F m hF
  have hg := climb_eq_group prec a0 (strip c) m hm
  rw [show (strip c).length = c.length from List.length_map ..] at hg
  rw [hg] at hs2 hx
  cases List.map_eq_nil_iff.1 hs2
  exact hx

theorem termOK_of_reads (hT : ∀ a r, pTerm (T a ++ r) = some (a, r)) :
    TermOK pTerm T (fun _ => True) (fun _ => True) :=
  ⟨fun a _ r _ => hT a r, fun _ => trivial, fun _ _ => trivial⟩

end Folang.Props.C08R

namespace Folang.Props.C08
open Folang.Prec
variable {α : Type} (prec : Nat → Nat)
variable (pTerm : List Tok → Option (α × List Tok)) (T : α → List Tok)

/-- the bound `n` on the length of the chains is inert: `tokSim` has `TokSim n` for every `n` from
`C08R.binAfter_climb` / `exprP_climb`, which have no bound -/
structure TokSim (n : Nat) : Prop where
  bin : ∀ (c : List (Nat × Nat × α)), c.length ≤ n → ZL c → ∀ (F m : Nat) (cur : G α) (rest : List Tok),
    2 * c.length + 1 ≤ F → Ends rest →
    ∃ c2, ZL c2 ∧ strip c2 = (climb prec (c.length + 1) m cur (strip c)).2 ∧
      exprP.binAfter pTerm prec F m (chainToks T c ++ rest) cur =
        some ((climb prec (c.length + 1) m cur (strip c)).1, chainToks T c2 ++ rest)
  expr : ∀ (c : List (Nat × Nat × α)), c.length ≤ n → ∀ (F m : Nat) (a0 : α) (rest : List Tok),
    2 * c.length + 2 ≤ F → Ends rest →
    ∃ c2, ZL c2 ∧ strip c2 = (climb prec (c.length + 1) m (.atom a0) (strip c)).2 ∧
      exprP pTerm prec F m (T a0 ++ (chainToks T c ++ rest)) =
        some ((climb prec (c.length + 1) m (.atom a0) (strip c)).1, chainToks T c2 ++ rest)

theorem tokSim (hT : ∀ a r, pTerm (T a ++ r) = some (a, r)) : ∀ n, TokSim prec pTerm T n := fun _ =>
  have h := C08R.termOK_of_reads pTerm T hT
  { bin := fun c _ hz F m cur _ hF hends =>
      C08R.binAfter_climb prec pTerm T _ _ h hends trivial _ c (Nat.lt_succ_self _) hz (fun _ _ => trivial) F m cur hF
    expr := fun c _ F m _ _ hF hends =>
      C08R.exprP_climb prec pTerm T _ _ h hends trivial c (fun _ _ => trivial) trivial F m hF }

/-- **C08, token level.**  `parseExprWithPrec minPrec` on an operand followed by an operator chain
with any ends of line before the operators returns the tree `climb` builds on the plain chain.  With
`minPrec` not above any rank, that is the reference grouping of the whole chain (`climb_eq_group`) and
everything up to `rest` is consumed. -/
theorem exprP_eq_group (hT : ∀ a r, pTerm (T a ++ r) = some (a, r)) (a0 : α) (c : List (Nat × Nat × α))
    (rest : List Tok) (hends : Ends rest) (m : Nat) (hm : ∀ e ∈ strip c, m ≤ prec e.1) (F : Nat) (hF : 2 * c.length + 2 ≤ F) :
    exprP pTerm prec F m (T a0 ++ (chainToks T c ++ rest)) = some (group prec (.atom a0) (strip c), rest) :=
  C08R.exprP_eq_groupR prec pTerm T _ _ (C08R.termOK_of_reads pTerm T hT) a0 c trivial (fun _ _ => trivial)
    rest hends trivial m hm F hF

def termP : List Tok → Option (String × List Tok)
  | .other s :: r => some (s, r)
  | _ => none

def termT (a : String) : List Tok := [.other a]

theorem termP_reads : ∀ a r, termP (termT a ++ r) = some (a, r) := by intro a r; rfl

/-- `a  <EOL> + b <EOL><EOL> * c )` with ranks +:4, *:5 : the hypotheses of `exprP_eq_group` hold and
the result is a + (b * c), with `)` left -/
example : exprP termP (fun k => if k = 0 then 4 else 5) 8 1
    (termT "a" ++ (chainToks termT [(1, 0, "b"), (2, 1, "c")] ++ [.other ")"])) =
    some (.bin 0 (.atom "a") (.bin 1 (.atom "b") (.atom "c")), [.other ")"]) := by
  have h := exprP_eq_group (fun k => if k = 0 then 4 else 5) termP termT termP_reads "a"
    [(1, 0, "b"), (2, 1, "c")] [.other ")"] (by intro k r h; simp [skipEOL] at h) 1
    (by intro e he; simp [strip] at he; rcases he with rfl | rfl <;> simp) 8 (by simp)
  simpa [strip, group, Folang.Prec.insert] using h

end Folang.Props.C08
