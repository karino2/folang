import Folang.Model.Unify
import Folang.Props.C02
/-
C02 — the reference unifier computes most general unifiers (principal types), answers `clash` only for
unsolvable systems, and is sound without its certificate.

`unify` is unfolded in one place, `unify_step`: on a non-empty work list it either stops with `clash` at
a head equation without solution or goes on with a state related to the present one by `Next`.  What
the three kinds of `Next` step do to the solutions of the equations is said once per invariant
(`Next.solution`, `Owes.step`), and `unify_run` carries an invariant of the steps through a whole run.
-/

namespace Folang.Unify
open Folang.Infer

mutual
theorem subst_comp (σ θ : Subst) : ∀ (u : ITy), (u.subst σ).subst θ = u.subst (fun v => (σ v).subst θ)
  | .var _ => rfl
  | .con g as => by simp only [ITy.subst, substList_comp σ θ as]
theorem substList_comp (σ θ : Subst) : ∀ (us : List ITy),
    substList θ (substList σ us) = substList (fun v => (σ v).subst θ) us
  | [] => rfl
  | u :: us => by simp only [substList, subst_comp σ θ u, substList_comp σ θ us]
end

mutual
theorem subst_agree (θ1 θ2 : Subst) : ∀ (u : ITy), (∀ v, occurs v u = true → θ1 v = θ2 v) → u.subst θ1 = u.subst θ2
  | .var b, h => h b (beq_self_eq_true b)
  | .con g as, h => by
    simp only [ITy.subst]
    rw [substList_agree θ1 θ2 as (fun v hv => h v hv)]
theorem substList_agree (θ1 θ2 : Subst) : ∀ (us : List ITy), (∀ v, occursL v us = true → θ1 v = θ2 v) →
    substList θ1 us = substList θ2 us
  | [], _ => rfl
  | u :: us, h => by
    simp only [substList]
    rw [subst_agree θ1 θ2 u (fun v hv => h v (by simp only [occursL, hv, Bool.true_or])),
        substList_agree θ1 θ2 us (fun v hv => h v (by simp only [occursL, hv, Bool.or_true]))]
end

mutual
theorem subst_var : ∀ (u : ITy), u.subst ITy.var = u
  | .var _ => rfl
  | .con g as => by simp only [ITy.subst, substList_var as]
theorem substList_var : ∀ (us : List ITy), substList ITy.var us = us
  | [] => rfl
  | u :: us => by simp only [substList, subst_var u, substList_var us]
end

theorem length_substList (θ : Subst) : ∀ (ts : List ITy), (substList θ ts).length = ts.length
  | [] => rfl
  | _ :: ts => by simp only [substList, List.length_cons, length_substList θ ts]

theorem comp_sub1 {θ : Subst} {a : String} {t : ITy} (h : θ a = t.subst θ) :
    (fun v => (sub1 a t v).subst θ) = θ := by
  funext v
  by_cases hv : v = a
  · simp only [sub1, hv, if_true, h]
  · simp only [sub1, hv, if_false, ITy.subst]

theorem subst_comp_sub1_self (θ : Subst) {a : String} {t : ITy} (h : occurs a t = false) :
    t.subst (fun v => (sub1 a t v).subst θ) = t.subst θ := by
  apply subst_agree
  intro v hv
  have : v ≠ a := fun e => by
    rw [e, h] at hv
    cases hv
  simp only [sub1, this, if_false, ITy.subst]

mutual
theorem beqTy_refl : ∀ (t : ITy), beqTy t t = true
  | .var a => beq_self_eq_true a
  | .con g as => (Bool.and_eq_true _ _).mpr ⟨beq_self_eq_true g, beqTys_refl as⟩
theorem beqTys_refl : ∀ (ts : List ITy), beqTys ts ts = true
  | [] => rfl
  | t :: ts => (Bool.and_eq_true _ _).mpr ⟨beqTy_refl t, beqTys_refl ts⟩
end

theorem apply_cons (b : String × ITy) (acc : Bindings) (ty : ITy) :
    apply (b :: acc) ty = (apply acc ty).subst (sub1 b.1 b.2) := rfl

end Folang.Unify

namespace Folang.Props.C02Unify
open Folang.Infer Folang.Unify

/-- θ solves the equations -/
def Unifies (θ : Subst) (eqs : List Eqn) : Prop := ∀ e ∈ eqs, e.1.subst θ = e.2.subst θ
/-- θ agrees with the bindings -/
def Respects (θ : Subst) (acc : Bindings) : Prop := ∀ b ∈ acc, θ b.1 = b.2.subst θ

mutual
theorem beqTy_eq : ∀ (s t : ITy), beqTy s t = true → s = t
  | .var a, .var b, h => by rw [eq_of_beq h]
  | .con h as, .con g bs, hh => by
    have hh := (Bool.and_eq_true _ _).mp hh
    rw [eq_of_beq hh.1, beqTys_eq as bs hh.2]
  | .var _, .con _ _, h => nomatch h
  | .con _ _, .var _, h => nomatch h
theorem beqTys_eq : ∀ (s t : List ITy), beqTys s t = true → s = t
  | [], [], _ => rfl
  | a :: as, b :: bs, h => by
    have h := (Bool.and_eq_true _ _).mp h
    rw [beqTy_eq a b h.1, beqTys_eq as bs h.2]
  | [], _ :: _, h => nomatch h
  | _ :: _, [], h => nomatch h
end

theorem substList_sub1 (θ : Subst) (a : String) (t : ITy) (h : θ a = t.subst θ) :
    ∀ (tys : List ITy), substList θ (substList (sub1 a t) tys) = substList θ tys
  | tys => by rw [substList_comp, comp_sub1 h]

theorem unifies_cons {θ : Subst} {e : Eqn} {rest : List Eqn} :
    Unifies θ (e :: rest) ↔ e.1.subst θ = e.2.subst θ ∧ Unifies θ rest :=
  List.forall_mem_cons

theorem unifies_append {θ : Subst} {xs ys : List Eqn} :
    Unifies θ (xs ++ ys) ↔ Unifies θ xs ∧ Unifies θ ys :=
  List.forall_mem_append

theorem respects_cons {θ : Subst} {b : String × ITy} {acc : Bindings} :
    Respects θ (b :: acc) ↔ θ b.1 = b.2.subst θ ∧ Respects θ acc :=
  List.forall_mem_cons

theorem unifies_zip (θ : Subst) : ∀ (as bs : List ITy), as.length = bs.length →
    (Unifies θ (as.zip bs) ↔ substList θ as = substList θ bs)
  | [], [], _ => by simp [Unifies]
  | a :: as, b :: bs, hl => by
    simp only [List.zip_cons_cons, unifies_cons, substList, List.cons.injEq,
      unifies_zip θ as bs (Nat.succ.inj hl)]

theorem unifies_substEqs (θ : Subst) (a : String) (t : ITy) (eqs : List Eqn) :
    Unifies θ (substEqs a t eqs) ↔ Unifies (fun v => (sub1 a t v).subst θ) eqs := by
  simp only [Unifies, substEqs, List.forall_mem_map, subst_comp]

/-- a constructor clash at the head of the work list has no solution (the arity / head test never
rejects a solvable system) -/
theorem clash_head_unsolvable (g g' : String) (as bs : List ITy) (rest : List Eqn)
    (hc : ¬ (g = g' ∧ as.length = bs.length)) : ¬ ∃ θ, Unifies θ ((.con g as, .con g' bs) :: rest) := by
  rintro ⟨θ, hu⟩
  have h0 := (unifies_cons.mp hu).1
  simp only [ITy.subst, ITy.con.injEq] at h0
  exact hc ⟨h0.1, by rw [← length_substList θ as, ← length_substList θ bs, h0.2]⟩

mutual
def tySize : ITy → Nat
  | .var _ => 1
  | .con _ as => 1 + tysSize as
def tysSize : List ITy → Nat
  | [] => 0
  | t :: ts => tySize t + tysSize ts
end

mutual
theorem occurs_size (θ : Subst) (a : String) : ∀ (t : ITy), occurs a t = true → tySize (θ a) ≤ tySize (t.subst θ)
  | .var b, h => by
    simp only [occurs, beq_iff_eq] at h
    subst h
    exact Nat.le_refl _
  | .con g as, h => by
    simp only [occurs] at h
    have := occursL_size θ a as h
    simp only [ITy.subst, tySize]
    omega
theorem occursL_size (θ : Subst) (a : String) : ∀ (ts : List ITy), occursL a ts = true →
    tySize (θ a) ≤ tysSize (substList θ ts)
  | [], h => by simp [occursL] at h
  | t :: ts, h => by
    simp only [occursL, Bool.or_eq_true] at h
    simp only [substList, tysSize]
    rcases h with h | h
    · have := occurs_size θ a t h; omega
    · have := occursL_size θ a ts h; omega
end

/-- the occurs check never rejects a solvable equation -/
theorem occurs_unsolvable (θ : Subst) (a g : String) (bs : List ITy) (ho : occursL a bs = true) :
    θ a ≠ (ITy.con g bs).subst θ := by
  intro h
  have h1 := occursL_size θ a bs ho
  have h2 : tySize (θ a) = 1 + tysSize (substList θ bs) := by rw [h]; simp only [ITy.subst, tySize]
  omega

/-- what a step of `unify` that goes on does to the work list and the bindings -/
inductive Next : List Eqn → Bindings → List Eqn → Bindings → Prop
  | drop (a rest acc) : Next ((.var a, .var a) :: rest) acc rest acc
  | elim (a t e rest acc) : e = (.var a, t) ∨ e = (t, .var a) → occurs a t = false →
      Next (e :: rest) acc (substEqs a t rest) ((a, t) :: acc)
  | split (g as bs rest acc) : as.length = bs.length →
      Next ((.con g as, .con g bs) :: rest) acc (as.zip bs ++ rest) acc

theorem unify_step (e : Eqn) (rest : List Eqn) (acc : Bindings) :
    (∃ eqs' acc', Next (e :: rest) acc eqs' acc' ∧ ∀ f, unify (f + 1) (e :: rest) acc = unify f eqs' acc') ∨
    ((∀ θ, ¬ Unifies θ (e :: rest)) ∧ ∀ f, unify (f + 1) (e :: rest) acc = .clash) := by
  match e with
  | (.var a, .var b) =>
    by_cases h : a = b
    · subst h
      -- `unify (f + 1) (e :: rest) acc` unfolds to the `if` of its arm: `if_pos` / `if_neg` prove the equations
      exact .inl ⟨_, _, .drop a rest acc, fun _ => if_pos rfl⟩
    · exact .inl ⟨_, _, .elim a (.var b) _ rest acc (.inl rfl) (beq_eq_false_iff_ne.mpr h), fun _ => if_neg h⟩
  | (.var a, .con g bs) =>
    cases h : occursL a bs with
    | true => exact .inr ⟨fun θ hu => occurs_unsolvable θ a g bs h (unifies_cons.mp hu).1, fun _ => if_pos h⟩
    | false =>
      exact .inl ⟨_, _, .elim a (.con g bs) _ rest acc (.inl rfl) h, fun _ => if_neg (h ▸ Bool.false_ne_true)⟩
  | (.con g as, .var b) =>
    cases h : occursL b as with
    | true => exact .inr ⟨fun θ hu => occurs_unsolvable θ b g as h (unifies_cons.mp hu).1.symm, fun _ => if_pos h⟩
    | false =>
      exact .inl ⟨_, _, .elim b (.con g as) _ rest acc (.inr rfl) h, fun _ => if_neg (h ▸ Bool.false_ne_true)⟩
  | (.con g as, .con g' bs) =>
    by_cases h : g = g' ∧ as.length = bs.length
    · obtain ⟨rfl, hl⟩ := h
      exact .inl ⟨_, _, .split g as bs rest acc hl, fun _ => if_pos ⟨rfl, hl⟩⟩
    · exact .inr ⟨fun θ hu => clash_head_unsolvable g g' as bs rest h ⟨θ, hu⟩, fun _ => if_neg h⟩

theorem unify_run {I : List Eqn → Bindings → Prop}
    (step : ∀ {eqs acc eqs' acc'}, Next eqs acc eqs' acc' → I eqs acc → I eqs' acc') :
    ∀ (f : Nat) (eqs : List Eqn) (acc : Bindings), I eqs acc →
      match unify f eqs acc with
      | .ok acc' => I [] acc'
      | .clash => ∃ eqs' acc', I eqs' acc' ∧ ∀ θ, ¬ Unifies θ eqs'
      | .fuel => True
  | 0, _, _, _ => trivial
  | _ + 1, [], _, h => h
  | f + 1, e :: rest, acc, h => by
    rcases unify_step e rest acc with ⟨eqs', acc', hn, hu⟩ | ⟨hno, hu⟩
    · rw [hu]
      exact unify_run step f eqs' acc' (step hn h)
    · rw [hu]
      exact ⟨_, _, h, hno⟩

theorem Next.solution {eqs eqs' : List Eqn} {acc acc' : Bindings} (h : Next eqs acc eqs' acc') {θ : Subst}
    (hu : Unifies θ eqs) : Unifies θ eqs' ∧ (Respects θ acc → Respects θ acc') := by
  cases h with
  | drop => exact ⟨(unifies_cons.mp hu).2, id⟩
  | elim a t e rest _ he =>
    obtain ⟨h0, hrest⟩ := unifies_cons.mp hu
    have h0 : θ a = t.subst θ := by
      rcases he with rfl | rfl
      · exact h0
      · exact h0.symm
    refine ⟨?_, fun hr => respects_cons.mpr ⟨h0, hr⟩⟩
    rw [unifies_substEqs, comp_sub1 h0]
    exact hrest
  | split g as bs rest _ hl =>
    obtain ⟨h0, hrest⟩ := unifies_cons.mp hu
    simp only [ITy.subst, ITy.con.injEq, true_and] at h0
    exact ⟨unifies_append.mpr ⟨(unifies_zip θ as bs hl).mpr h0, hrest⟩, id⟩

/-- the invariant of the work list: every solution of the remaining equations that agrees with the
bindings made so far agrees with the bindings at the end -/
theorem unify_general : ∀ (f : Nat) (eqs : List Eqn) (acc acc' : Bindings), unify f eqs acc = .ok acc' →
    ∀ θ : Subst, Unifies θ eqs → Respects θ acc → Respects θ acc' := by
  intro f eqs acc acc' h θ hu hr
  have := unify_run (I := fun eqs acc => Unifies θ eqs ∧ Respects θ acc)
    (fun hn hi => ⟨(hn.solution hi.1).1, (hn.solution hi.1).2 hi.2⟩) f eqs acc ⟨hu, hr⟩
  rw [h] at this
  exact this.2

theorem apply_respects (θ : Subst) : ∀ (acc : Bindings), Respects θ acc → ∀ ty, (apply acc ty).subst θ = ty.subst θ
  | [], _, _ => rfl
  | b :: acc, hr, ty => by
    obtain ⟨hb, hr⟩ := respects_cons.mp hr
    rw [apply_cons, subst_comp, comp_sub1 hb, apply_respects θ acc hr]

/-- the computed unifier is MOST GENERAL: every solution θ of the equations factors through it -/
theorem unify_most_general (f : Nat) (eqs : List Eqn) (acc : Bindings) (h : unify f eqs [] = .ok acc)
    (θ : Subst) (hu : Unifies θ eqs) : ∀ ty, (apply acc ty).subst θ = ty.subst θ :=
  apply_respects θ acc (unify_general f eqs [] acc h θ hu (fun _ hb => by cases hb))

theorem unify_complete : ∀ (f : Nat) (eqs : List Eqn) (acc : Bindings), unify f eqs acc = .clash →
    ∀ θ : Subst, ¬ Unifies θ eqs := by
  intro f eqs acc h θ hu
  have := unify_run (I := fun eqs _ => Unifies θ eqs) (fun hn hi => (hn.solution hi).1) f eqs acc hu
  rw [h] at this
  obtain ⟨_, _, hu', hno⟩ := this
  exact hno θ hu'

end Folang.Props.C02Unify

/- `unifyC` re-checks its answer (`unifyC_sound` below rests on that check alone).  Here the work-list
algorithm itself is shown sound: whenever `unify` answers `ok acc`, the bindings solve every equation
it was given.  Hence the re-check of `unifyC` never fails (`unifyC_eq_unify`). -/

namespace Folang.Unify
open Folang.Infer Folang.Props.C02Unify

/-- what the bindings made so far still owe to the equations `eqs0` the run began with: they solve them
under every solution of the equations that remain -/
def Owes (eqs0 eqs : List Eqn) (acc : Bindings) : Prop :=
  ∀ θ, Unifies θ eqs → ∀ e ∈ eqs0, (apply acc e.1).subst θ = (apply acc e.2).subst θ

/-- from a solution θ of the new equations, θ after the step's `[a := t]` solves the old ones, the eliminated
equation because the occurs check keeps `a` out of `t` -/
theorem Owes.step {eqs0 eqs eqs' : List Eqn} {acc acc' : Bindings} (ho : Owes eqs0 eqs acc)
    (h : Next eqs acc eqs' acc') : Owes eqs0 eqs' acc' := by
  intro θ hu
  cases h with
  | drop => exact ho θ (unifies_cons.mpr ⟨rfl, hu⟩)
  | elim a t e rest _ he hocc =>
    intro e0 he0
    rw [apply_cons, apply_cons, subst_comp, subst_comp]
    refine ho _ (unifies_cons.mpr ⟨?_, (unifies_substEqs θ a t rest).mp hu⟩) e0 he0
    have ha : (ITy.var a).subst (fun v => (sub1 a t v).subst θ) = t.subst θ := by
      simp only [ITy.subst, sub1, if_true]
    rcases he with rfl | rfl <;> rw [ha, subst_comp_sub1_self θ hocc]
  | split g as bs rest _ hl =>
    obtain ⟨hz, hrest⟩ := unifies_append.mp hu
    refine ho θ (unifies_cons.mpr ⟨?_, hrest⟩)
    simp only [ITy.subst, (unifies_zip θ as bs hl).mp hz]

theorem unify_owes (eqs0 : List Eqn) (f : Nat) (eqs : List Eqn) (acc acc' : Bindings)
    (h : unify f eqs acc = .ok acc') (ho : Owes eqs0 eqs acc) : Owes eqs0 [] acc' := by
  have := unify_run (I := Owes eqs0) (fun hn hi => hi.step hn) f eqs acc ho
  rw [h] at this
  exact this

/-- **soundness of the work-list unifier itself**: its bindings solve every equation -/
theorem unify_sound (f : Nat) (eqs : List Eqn) (acc : Bindings) (h : unify f eqs [] = .ok acc) :
    ∀ e ∈ eqs, apply acc e.1 = apply acc e.2 := by
  intro e he
  have := unify_owes eqs f eqs [] acc h (fun _ hu => hu) ITy.var (fun _ h' => by cases h') e he
  rwa [subst_var, subst_var] at this

/-- the certificate never fails: `unifyC` is `unify` -/
theorem unifyC_eq_unify (f : Nat) (eqs : List Eqn) : unifyC f eqs = unify f eqs [] := by
  unfold unifyC
  cases hu : unify f eqs [] with
  | ok acc =>
    have : eqs.all (fun e => beqTy (apply acc e.1) (apply acc e.2)) = true :=
      List.all_eq_true.mpr fun e he => by
        rw [unify_sound f eqs acc hu e he]
        exact beqTy_refl _
    simp only [this, if_true]
  | clash => rfl
  | fuel => rfl

end Folang.Unify

namespace Folang.Props.C02Unify
open Folang.Infer Folang.Unify

/-- the certified unifier's answer solves every equation: it has passed the re-check inside `unifyC`, whatever
`unify` did (proved through `beqTy_eq`, on purpose not through `unify_sound`) … -/
theorem unifyC_sound (f : Nat) (eqs : List Eqn) (acc : Bindings) (h : unifyC f eqs = .ok acc) :
    ∀ e ∈ eqs, apply acc e.1 = apply acc e.2 := by
  intro e he
  unfold unifyC at h
  split at h
  · split at h
    · next hc =>
      cases h
      exact beqTy_eq _ _ (List.all_eq_true.mp hc e he)
    · cases h
  · next hr => exact absurd h (hr acc)

/-- … and is most general: any typing θ of the variables that solves the equations is an INSTANCE of
it (θ applied after the computed substitution is θ).  For a function whose body yields `eqs`, the
types `apply acc P₀, …` of the parameters and the result are therefore its principal types -/
theorem unifyC_principal (f : Nat) (eqs : List Eqn) (acc : Bindings) (h : unifyC f eqs = .ok acc)
    (θ : Subst) (hu : Unifies θ eqs) : ∀ ty, (apply acc ty).subst θ = ty.subst θ :=
  unify_most_general f eqs acc (unifyC_eq_unify f eqs ▸ h) θ hu

/-- `unifyC` answers `clash` only when the equations have no solution at all -/
theorem unifyC_complete (f : Nat) (eqs : List Eqn) (h : unifyC f eqs = .clash) : ¬ ∃ θ, Unifies θ eqs :=
  fun ⟨θ, hu⟩ => unify_complete f eqs [] (unifyC_eq_unify f eqs ▸ h) θ hu

theorem indexOf_eq_idxOf (a : String) : ∀ (xs : List String), indexOf xs a = xs.idxOf a
  | [] => rfl
  | x :: xs => by
    rw [indexOf, List.idxOf_cons, indexOf_eq_idxOf a xs]
    by_cases h : x = a
    · rw [if_pos h, beq_iff_eq.mpr h, cond_true]
    · rw [if_neg h, beq_eq_false_iff_ne.mpr h, cond_false]

theorem indexOf_of_getElem? (l : List String) (hnd : l.Nodup) (k : Nat) (v : String) (h : l[k]? = some v) :
    indexOf l v = k := by
  obtain ⟨hk, rfl⟩ := List.getElem?_eq_some_iff.mp h
  rw [indexOf_eq_idxOf, hnd.idxOf_getElem]

/-- the oracle numbers a leftover variable by its position among the first occurrences — exactly the
`T{k}` the hoisting model of the compiler gives it (`hoist_first_occurrence`, Props/C02.lean) -/
theorem principal_numbering_is_hoist (occ : List String) (k : Nat) (v : String)
    (h : (distinct occ)[k]? = some v) :
    indexOf (distinct occ) v = k ∧ (hoistNames occ)[k]? = some (v, "T" ++ toString k) :=
  ⟨indexOf_of_getElem? _ (Folang.Props.C02.distinct_nodup occ) k v h, Folang.Props.C02.hoist_first_occurrence occ k v h⟩

/-! non-vacuity: `[P0] ~ P1`, `(P1, 1) ~ (P2, P3)` -/
def exEqs : List Eqn :=
  [(.con "[]" [.var "P0"], .var "P1"), (.con "*" [.var "P1", .con "int" []], .con "*" [.var "P2", .var "P3"])]

example : (match unifyC 20 exEqs with
    | .ok acc => (principal acc [.var "P0", .var "P1", .var "P2", .var "P3"]).1
    | _ => 99) = 1 := by decide

end Folang.Props.C02Unify
