import Folang.Lemmas.TypeText
import Folang.Lemmas.TypeRoundtrip
/-
C15 — type expressions map to Go types by the documented grammar.

Proved here, for sub-types of ANY depth: the model of FTypeToGo renders each type constructor as the
documentation says (`toGo_*`: int/string/bool/any as themselves, float ↦ float64, () ↦ no result,
[]T, frt.Tuple2/3[...], func (A,B) C with a unit result omitted and a unit argument list empty,
Name / Name[T, U]).
`roundtrip`: for EVERY concrete syntax tree of the grammar (Model/TypeSyntax.lean: a tree per level
TYPE > ELEM > TERM > ATOM, so it covers the parentheses the levels require and any redundant ones, any
nesting depth, any number of arrows / stars / type arguments, dotted names) whose names resolve, the
parser model applied to its rendering — followed by any token that cannot continue a type — returns
exactly the FType the tree denotes and leaves the rest, for every sufficient fuel.  Hence `->` is
flat and nests only through parentheses, `*` binds tighter than `->`, `[]` tighter than `*`,
parentheses only group, `()` is unit, generic arguments are checked against the declared arity.
The parser model is executable and tied to the real parser by exhaustive enumeration up to depth 2/3
and random deeper expressions (DESIGN.md §5, C15).
-/
namespace Folang.Props.C15
open Folang.TypeExpr

theorem toGo_int : toGo .int = "int" := rfl
theorem toGo_string : toGo .string = "string" := rfl
theorem toGo_bool : toGo .bool = "bool" := rfl
theorem toGo_any : toGo .any = "any" := rfl
theorem toGo_float : toGo .float = "float64" := rfl
/-- () is "no result" -/
theorem toGo_unit : toGo .unit = "" := rfl
theorem toGo_slice (t : FT) : toGo (.slice t) = "[]" ++ toGo t := rfl
theorem toGo_tuple2 (a b : FT) : toGo (.tuple [a, b]) = "frt.Tuple2[" ++ toGo a ++ ", " ++ toGo b ++ "]" := by
  rw [show "frt.Tuple2[" = "frt.Tuple" ++ toString 2 ++ "[" by decide]
  simp only [toGo_tuple, toGoList_cons, toGoList_nil, joinWith_cons_cons, joinWith_one, String.append_assoc,
    List.length_cons, List.length_nil]
theorem toGo_tuple3 (a b c : FT) :
    toGo (.tuple [a, b, c]) = "frt.Tuple3[" ++ toGo a ++ ", " ++ toGo b ++ ", " ++ toGo c ++ "]" := by
  rw [show "frt.Tuple3[" = "frt.Tuple" ++ toString 3 ++ "[" by decide]
  simp only [toGo_tuple, toGoList_cons, toGoList_nil, joinWith_cons_cons, joinWith_one, String.append_assoc,
    List.length_cons, List.length_nil]

/-- A->B is func (A) B when B is not unit -/
theorem toGo_func1 (a r : FT) (hr : lastIsUnit [a, r] = false) :
    toGo (.func [a, r]) = "func (" ++ toGo a ++ ")" ++ " " ++ toGo r := by
  rw [toGo_func, hr]
  simp only [funcText, toGoList_cons, toGoList_nil, List.dropLast, joinWith_one, List.getLastD, String.append_assoc,
    Bool.false_eq_true, if_false]
  rfl
/-- A->B->C is func (A,B) C: arrows are flat, parameters in order -/
theorem toGo_func2 (a b r : FT) (hr : lastIsUnit [a, b, r] = false) :
    toGo (.func [a, b, r]) = "func (" ++ toGo a ++ "," ++ toGo b ++ ")" ++ " " ++ toGo r := by
  rw [toGo_func, hr]
  simp only [funcText, toGoList_cons, toGoList_nil, List.dropLast, joinWith_cons_cons, joinWith_one, List.getLastD,
    String.append_assoc, Bool.false_eq_true, if_false]
  rfl
/-- a unit result is no result -/
theorem toGo_func_unit_result (a : FT) : toGo (.func [a, .unit]) = "func (" ++ toGo a ++ ")" := by
  simp [toGo_func, toGoList_cons, toGoList_nil, funcText, lastIsUnit, joinWith_one]
/-- a unit parameter is no parameter -/
theorem toGo_func_unit_arg (r : FT) (hr : lastIsUnit [.unit, r] = false) :
    toGo (.func [.unit, r]) = "func ()" ++ " " ++ toGo r := by
  simp [toGo_func, toGo_unit, toGoList_cons, toGoList_nil, funcText, hr, joinWith_one]
  rw [← String.append_assoc]
  rfl
/-- a function-typed result stays nested: A->(B->C) is func (A) followed by the Go type of B->C -/
theorem toGo_func_nested (a b c : FT) :
    toGo (.func [a, .func [b, c]]) = "func (" ++ toGo a ++ ")" ++ " " ++ toGo (.func [b, c]) :=
  toGo_func1 a (.func [b, c]) (by simp [lastIsUnit])
theorem toGo_named0 (k n : String) : toGo (.named k n []) = n := rfl
/-- Name<T> is Name[T] -/
theorem toGo_named1 (k n : String) (a : FT) : toGo (.named k n [a]) = n ++ "[" ++ toGo a ++ "]" := rfl
/-- Name<T,U> is Name[T, U] -/
theorem toGo_named2 (k n : String) (a b : FT) :
    toGo (.named k n [a, b]) = n ++ "[" ++ toGo a ++ ", " ++ toGo b ++ "]" := by
  simp only [toGo_named, toGoList_cons, toGoList_nil, namedText, joinWith_cons_cons, joinWith_one, String.append_assoc]

/-- precedence level of the outermost constructor: 0 function, 1 tuple, 2 slice, 3 atom -/
def level : FT → Nat
  | .func _ => 0
  | .tuple _ => 1
  | .slice _ => 2
  | _ => 3

/-- **round trip**: the parser model returns the denoted type on the rendering of every concrete
syntax tree whose names resolve, whatever follows (as long as it cannot continue a type) -/
theorem roundtrip (env : TEnv) (t : STy) (hwf : wfTy env t = true) (rest : List TTok) (hstop : StopT rest)
    (fuel : Nat) (hfuel : sizeTy t ≤ fuel) :
    parseType env fuel (renderTy t ++ rest) = some (denoteTy env t, rest) :=
  (rt_all env fuel).ty t hwf hfuel rest hstop

theorem roundtrip_whole (env : TEnv) (t : STy) (hwf : wfTy env t = true) :
    parseType env (sizeTy t) (renderTy t) = some (denoteTy env t, []) := by
  simpa using roundtrip env t hwf [] StopT.nil (sizeTy t) (Nat.le_refl _)

/-- the Go type of a type expression is the documented rendering of the type its tree denotes -/
theorem goType_of_rendering (env : TEnv) (t : STy) (hwf : wfTy env t = true) :
    (parseType env (sizeTy t) (renderTy t)).map (fun r => toGo r.1) = some (toGo (denoteTy env t)) := by
  rw [roundtrip_whole env t hwf]; rfl

/-- what the tree levels mean: arrows are flat and a parenthesised arrow nests -/
theorem denote_arrows_flat (env : TEnv) (a b c : SElem) :
    denoteTy env (.arrows a [b, c]) = .func [denoteElem env a, denoteElem env b, denoteElem env c] := rfl

theorem denote_paren (env : TEnv) (t : STy) : denoteAtom env (.paren t) = denoteTy env t := rfl

def env0 : TEnv := [("dict.Dict", "ext", "dict.Dict", 2), ("Rec", "record", "Rec", 0)]
def goText (ts : List TTok) : Option String := (parseType env0 64 ts).map (fun r => toGo r.1)

/-- `[]` binds tighter than `*`:  []int*string  is  ([]int)*string -/
example : goText [.lb, .rb, .id "int", .star, .id "string"] = some "frt.Tuple2[[]int, string]" := by decide
/-- `*` binds tighter than `->` -/
example : goText [.id "int", .star, .id "string", .arrow, .id "bool"] = some "func (frt.Tuple2[int, string]) bool" := by
  decide
/-- `->` nests to the right only through parentheses -/
example : goText [.id "int", .arrow, .lp, .id "int", .arrow, .id "bool", .rp] = some "func (int) func (int) bool" := by
  decide
example : goText [.id "int", .arrow, .id "int", .arrow, .id "bool"] = some "func (int,int) bool" := by decide
/-- parentheses only group -/
example : goText [.lp, .lp, .id "int", .rp, .rp] = some "int" := by decide
/-- unit argument and unit result -/
example : goText [.lp, .rp, .arrow, .id "int"] = some "func () int" := by decide
example : goText [.id "int", .arrow, .lp, .rp] = some "func (int)" := by decide
/-- external generic types keep their package qualifier -/
example : goText [.id "dict", .dot, .id "Dict", .lt, .id "string", .comma, .lb, .rb, .id "Rec", .gt] =
    some "dict.Dict[string, []Rec]" := by decide

/-- non-vacuity: `(int -> [](dict.Dict<string, Rec*int>)) * string -> bool` is a tree whose names resolve -/
def sample : STy :=
  .arrows
    (.stars (.atom (.paren (.arrows (.stars (.atom (.base .int)) [])
        [.stars (.slice (.atom (.paren (.arrows (.stars (.atom (.named "dict" ["Dict"]
          [.arrows (.stars (.atom (.base .string)) []) [],
           .arrows (.stars (.atom (.named "Rec" [] [])) [.atom (.base .int)]) []])) []) [])))) []])))
      [.atom (.base .string)])
    [.stars (.atom (.base .bool)) []]

example : wfTy env0 sample = true := by decide
example : (parseType env0 (sizeTy sample) (renderTy sample)).map (fun r => toGo r.1) =
    some "func (frt.Tuple2[func (int) []dict.Dict[string, frt.Tuple2[Rec, int]], string]) bool" := by
  decide

end Folang.Props.C15
