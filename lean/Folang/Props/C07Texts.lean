import Folang.Props.C07Balanced
import Folang.Lemmas.TypeText

/-!
# C07 — every Go type text of the `FTypeToGo` model is in the class of `encodedKey_inj_balanced`

`toGo` (Model/TypeExpr.lean, tied to the real `FTypeToGo` by the streams `c15.type` and `c07.key`)
renders a type as Go text.  For every type whose type NAMES contain no bracket and no comma the text is
an `item`: the count of open brackets never falls below zero, commas stand only at a positive count,
the count ends at zero.  So the hypothesis `Items` of `encodedKey_inj_balanced` is a theorem about the
modelled `FTypeToGo`, not an assumption.

A text is put together from parts, each taking the count from one value to another; `scan_trans`
composes two of them, and `scan_strs` is the same rule on strings, so that no equation between strings
has to be turned into one between character lists.  The counts in between are found by unification.
-/

namespace Folang.Props.C07
open Folang.TypeExpr

/-- balanced, commas only inside brackets (= `item 0`) -/
def Bal (a : Txt) : Prop := scan 0 a = some 0
/-- balanced when read inside a bracket (commas allowed) -/
def In (a : Txt) : Prop := scan 1 a = some 1

instance (a : Txt) : Decidable (Bal a) := inferInstanceAs (Decidable (scan 0 a = some 0))
instance (a : Txt) : Decidable (In a) := inferInstanceAs (Decidable (scan 1 a = some 1))

theorem scan_trans {a b : Txt} {d e f : Nat} (ha : scan d a = some e) (hb : scan e b = some f) :
    scan d (a ++ b) = some f := by
  rw [scan_append, ha]
  exact hb

theorem scan_strs {s t : String} {d e f : Nat} (hs : scan d s.toList = some e) (ht : scan e t.toList = some f) :
    scan d (s ++ t).toList = some f :=
  String.toList_append ▸ scan_trans hs ht

theorem Bal.item {a : Txt} (h : Bal a) : item 0 a = true := by rw [item_eq_scan, h]; rfl
theorem Bal.toIn {a : Txt} (h : Bal a) : In a := scan_mono a 0 0 1 h
theorem Bal.append {a b : Txt} (ha : Bal a) (hb : Bal b) : Bal (a ++ b) := scan_trans ha hb
theorem In.append {a b : Txt} (ha : In a) (hb : In b) : In (a ++ b) := scan_trans ha hb
theorem Bal.plain {a : Txt} (h : ∀ c ∈ a, plainC c = true) : Bal a := scan_plain a 0 h
theorem In.bracket {a : Txt} (o c : Char) (ho : isOpen o = true) (hc0 : isOpen c = false) (hc : isClose c = true)
    (h : In a) : Bal (o :: a ++ [c]) :=
  scan_trans (a := o :: a) (scan_trans (a := [o]) (by simp [scan, ho]) h) (by simp [scan, hc0, hc])

theorem digit_plain (c : Char) (h : c.isDigit = true) : plainC c = true := by
  simp only [plainC, isOpen, isClose, Bool.and_eq_true, Bool.not_eq_true', Bool.or_eq_false_iff, beq_eq_false_iff_ne]
  refine ⟨⟨⟨⟨?_, ?_⟩, ?_⟩, ⟨⟨?_, ?_⟩, ?_⟩⟩, ?_⟩ <;> (intro e; rw [e] at h; exact absurd h (by decide))

theorem joinWith_In (sep : String) (hsep : In sep.toList) : ∀ (ss : List String),
    (∀ s ∈ ss, Bal s.toList) → In (Folang.TypeExpr.joinWith sep ss).toList
  | [], _ => by simp [Folang.TypeExpr.joinWith, In, scan]
  | [s], h => by simpa [Folang.TypeExpr.joinWith] using (h s List.mem_cons_self).toIn
  | s :: t :: rest, h =>
    scan_strs (scan_strs (h s List.mem_cons_self).toIn hsep)
      (joinWith_In sep hsep (t :: rest) fun x hx => h x (List.mem_cons_of_mem _ hx))

/-- type names without brackets and commas (identifiers, possibly package-qualified) -/
def plainName (s : String) : Bool := s.toList.all plainC

mutual
def wfFT : FT → Bool
  | .func ts => wfFTs ts
  | .slice e => wfFT e
  | .tuple es => wfFTs es
  | .named _ goName targs => plainName goName && wfFTs targs
  | _ => true
def wfFTs : List FT → Bool
  | [] => true
  | t :: ts => wfFT t && wfFTs ts
end

theorem bal_lit (s : String) (h : s.toList.all plainC = true) : Bal s.toList :=
  Bal.plain (fun c hc => List.all_eq_true.mp h c hc)

theorem toString_bal (n : Nat) : Bal (toString n).toList := by
  have e : (toString n).toList = Nat.toDigits 10 n := by
    show (Nat.repr n).toList = _
    simp [Nat.repr, String.toList_ofList]
  rw [e]
  exact Bal.plain fun c hc => digit_plain c (Nat.isDigit_of_mem_toDigits (by decide) (by decide) hc)

theorem funcText_bal (rendered : List String) (u : Bool) (h : ∀ s ∈ rendered, Bal s.toList) :
    Bal (funcText rendered u).toList := by
  have hargs : In (Folang.TypeExpr.joinWith "," rendered.dropLast).toList :=
    joinWith_In "," (by decide) _ (fun s hs => h s (List.dropLast_subset _ hs))
  have hlast : Bal (rendered.getLastD "").toList := by
    rw [List.getLastD_eq_getLast?]
    cases hr : rendered.getLast? with
    | none => exact (by decide : Bal "".toList)
    | some x => exact h x (List.mem_of_getLast? hr)
  refine scan_strs (e := 0) (scan_strs (scan_strs (by decide) hargs) (by decide)) ?_
  cases u with
  | true => exact (by decide : Bal "".toList)
  | false => exact scan_strs (by decide) hlast

theorem namedText_bal (goName : String) (rendered : List String) (hn : plainName goName = true)
    (h : ∀ s ∈ rendered, Bal s.toList) : Bal (namedText goName rendered).toList := by
  cases rendered with
  | nil => exact bal_lit goName hn
  | cons r rs =>
    exact scan_strs (scan_strs (scan_strs (bal_lit goName hn) (by decide)) (joinWith_In ", " (by decide) _ h)) (by decide)

mutual
theorem toGo_bal : ∀ (t : FT), wfFT t = true → Bal (toGo t).toList
  | .int, _ => by decide
  | .bool, _ => by decide
  | .float, _ => by decide
  | .any, _ => by decide
  | .string, _ => by decide
  | .unit, _ => by decide
  | .func ts, h => funcText_bal _ _ (toGoList_bal ts h)
  | .slice e, h => scan_strs (s := "[]") (by decide) (toGo_bal e h)
  | .tuple es, h =>
    scan_strs (scan_strs (scan_strs (scan_strs (s := "frt.Tuple") (by decide) (toString_bal _)) (by decide))
      (joinWith_In ", " (by decide) _ (toGoList_bal es h))) (by decide)
  | .named _ goName targs, h =>
    have h := Bool.and_eq_true_iff.mp h
    namedText_bal goName _ h.1 (toGoList_bal targs h.2)
theorem toGoList_bal : ∀ (ts : List FT), wfFTs ts = true → ∀ s ∈ toGoList ts, Bal s.toList
  | [], _ => fun _ hs => nomatch hs
  | t :: ts, h =>
    have h := Bool.and_eq_true_iff.mp h
    List.forall_mem_cons.mpr ⟨toGo_bal t h.1, toGoList_bal ts h.2⟩
end

/-- **the argument texts of every generic instance are in the proved class**: the Go texts the model of
`FTypeToGo` gives to well-named types are `Items` -/
theorem toGo_items (targs : List FT) (h : wfFTs targs = true) :
    Items ((toGoList targs).map String.toList) := by
  intro a ha
  obtain ⟨s, hs, rfl⟩ := List.mem_map.mp ha
  exact (toGoList_bal targs h s hs).item

/-- the key of the modelled types is injective: same key, same name and same argument texts -/
theorem encodedKey_inj_types (n n' : Txt) (as as' : List FT) (hn : '<' ∉ n) (hn' : '<' ∉ n')
    (harity : n = n' → as.length = as'.length) (hw : wfFTs as = true) (hw' : wfFTs as' = true)
    (h : encodedKey n ((toGoList as).map String.toList) = encodedKey n' ((toGoList as').map String.toList)) :
    n = n' ∧ (toGoList as).map String.toList = (toGoList as').map String.toList :=
  encodedKey_inj_balanced n n' _ _ hn hn' (fun e => by simp [toGoList_length, harity e]) (toGo_items as hw)
    (toGo_items as' hw') h

example : wfFT (.named "ext" "dict.Dict" [.tuple [.int, .string], .func [.int, .slice .bool, .unit]]) = true := by decide

end Folang.Props.C07
