import Folang.Model.TermParser
import Folang.Props.C08Tok
/-
C08: the concrete term parser (names, applications, `not`, parenthesised expressions) reads back
every well-formed operand, and therefore the whole expression parser — operators with ends of line
before them at the top level, arbitrarily nested parentheses — returns the reference grouping of what
the tokens spell.  No bound on nesting depth, chain length or number of arguments.
The T of namespace `C08T` stands for the concrete term parser.
-/
namespace Folang.Props.C08T
open Folang.Prec Folang.Props.C08 Folang.Props.C08R
variable (prec : Nat → Nat)

mutual
def renderOT : OT → List Tok
  | .name s => [.other s]
  | .not t => .other "not" :: renderOT t
  | .app ts => renderOTs ts
  | .paren e => .other "(" :: (renderG e ++ [.other ")"])
def renderOTs : List OT → List Tok
  | [] => []
  | t :: ts => renderOT t ++ renderOTs ts
def renderG : G OT → List Tok
  | .atom a => renderOT a
  | .bin k l r => renderG l ++ (.op k :: renderG r)
end

def isAtomLevel : OT → Bool
  | .name _ => true
  | .paren _ => true
  | _ => false

def goodName (s : String) : Prop := s ≠ "(" ∧ s ≠ ")" ∧ s ≠ "not"

mutual
/-- the operands `pTerm` gives back.  Between parentheses `pAtom` runs `exprP` with `minPrec = 1`: it
takes the whole chain only if no rank is below 1, and what it returns is the reference grouping, so a
tree is read back only if it is canonical (`group_of_canon`). -/
def WFOT : OT → Prop
  | .name s => goodName s
  | .not t => WFOT t
  | .app ts => 2 ≤ ts.length ∧ WFArgs ts
  | .paren e => WFG e ∧ Canon prec e ∧ ∀ k ∈ opsOfG e, 1 ≤ prec k
def WFArgs : List OT → Prop
  | [] => True
  | t :: ts => isAtomLevel t = true ∧ WFOT t ∧ WFArgs ts
def WFG : G OT → Prop
  | .atom a => WFOT a
  | .bin _ l r => WFG l ∧ WFG r
end

mutual
/-- a fuel with which `pTerm` reads the operand (enough, not the least).  One unit for every call on the
way down: `pTerm` → `pAtomList` → `pAtom`, so `pAtom` with fuel `F` reads what needs `F + 2`, and a name,
read by `pAtom` with fuel 1, gets 3 and one to spare; one unit more for every further argument
(`needArgs`).  Between parentheses `pAtom` hands its fuel to `exprP`, which wants `2 * operators + 2` of
it (`exprP_eq_groupR`), and to the `pTerm` that reads the operands, which wants what each of them needs:
both are below `needG` by the `+ 2` at every node. -/
def need : OT → Nat
  | .name _ => 4
  | .not t => 1 + need t
  | .app ts => 3 + needArgs ts
  | .paren e => 4 + needG e
def needArgs : List OT → Nat
  | [] => 0
  | t :: ts => 1 + need t + needArgs ts
def needG : G OT → Nat
  | .atom a => need a + 2
  | .bin _ l r => needG l + needG r + 2
end

theorem renderG_flatten : ∀ (e : G OT), renderG e = renderOT (flatten e).1 ++ chainToks renderOT (dec (flatten e).2) := by
  intro e
  induction e with
  | atom a => simp [renderG, flatten, dec, chainToks]
  | bin k l r ihl ihr =>
    simp only [renderG, flatten, ihl, ihr, dec, List.map_append, List.map_cons, chainToks_append,
      chainToks, List.replicate_zero, List.nil_append, List.append_assoc, List.cons_append]

theorem operands_of_flatten (e : G OT) (hw : WFG prec e) (N : Nat) (hN : needG e ≤ N) :
    (WFOT prec (flatten e).1 ∧ need (flatten e).1 ≤ N) ∧
      ∀ x ∈ (flatten e).2, WFOT prec x.2 ∧ need x.2 ≤ N := by
  induction e with
  | atom a => exact ⟨⟨hw, Nat.le_of_add_right_le hN⟩, nofun⟩
  | bin k l r ihl ihr =>
    simp only [needG] at hN
    have hl := ihl hw.1 (by omega)
    have hr := ihr hw.2 (by omega)
    refine ⟨hl.1, ?_⟩
    intro x hx
    simp only [flatten, List.mem_append, List.mem_cons, List.not_mem_nil, or_false] at hx
    rcases hx with (hx | rfl) | hx
    · exact hl.2 x hx
    · exact hr.1
    · exact hr.2 x hx

theorem chain_fuel_le_needG : ∀ (e : G OT), 2 * (flatten e).2.length + 2 ≤ needG e := by
  intro e
  induction e with
  | atom a => simp [flatten, needG]
  | bin k l r ihl ihr => simp only [flatten, needG, List.length_append, List.length_cons, List.length_nil]; omega

theorem ends_rparen (r : List Tok) : Ends (.other ")" :: r) := by
  intro k r' h; simp [skipEOL] at h

theorem need_pos (t : OT) : 1 ≤ need t := by
  cases t <;> simp only [need] <;> omega

theorem need_atomLevel {t : OT} (h : isAtomLevel t = true) : 4 ≤ need t := by
  cases t <;> simp only [need] <;> first | omega | cases h

theorem notEnd_of_atomLevel (t : OT) (hl : isAtomLevel t = true) (hw : WFOT prec t) (r : List Tok) :
    ∃ s tl, renderOT t ++ r = .other s :: tl ∧ s ≠ ")" ∧ s ≠ "not" := by
  cases t with
  | name s => exact ⟨s, r, by simp [renderOT], hw.2.1, hw.2.2⟩
  | paren e => exact ⟨"(", _, by simp only [renderOT, List.cons_append]; rfl, by decide, by decide⟩
  | not t => simp [isAtomLevel] at hl
  | app ts => simp [isAtomLevel] at hl

theorem isEndOfTerm_other {s : String} (h : s ≠ ")") (r : List Tok) : isEndOfTerm (.other s :: r) = false := by
  -- `rw` with the equation of a catch-all arm leaves as goals that the input is none of the earlier patterns
  rw [isEndOfTerm]
  · nofun
  · nofun
  · nofun
  · intro _ h'
    cases h'
    exact h rfl

theorem pAtom_name {s : String} (h1 : s ≠ "(") (h2 : s ≠ ")") (f : Nat) (r : List Tok) :
    pAtom prec (f + 1) (.other s :: r) = some (.name s, r) := by
  rw [pAtom, if_neg h1, if_neg h2]

theorem pAtom_paren {f : Nat} {r r' : List Tok} {e : G OT}
    (h : exprP (pTerm prec f) prec f 1 r = some (e, .other ")" :: r')) :
    pAtom prec (f + 1) (.other "(" :: r) = some (.paren e, r') := by
  rw [pAtom, if_pos rfl, h]
  rfl

theorem pAtomList_last {f : Nat} {ts r : List Tok} {a : OT} (h : pAtom prec f ts = some (a, r))
    (hr : isEndOfTerm r = true) : pAtomList prec (f + 1) ts = some ([a], r) := by
  rw [pAtomList, h]
  exact if_pos hr

theorem pAtomList_more {f : Nat} {ts r r' : List Tok} {a : OT} {as : List OT} (h : pAtom prec f ts = some (a, r))
    (hr : isEndOfTerm r = false) (h' : pAtomList prec f r = some (as, r')) :
    pAtomList prec (f + 1) ts = some (a :: as, r') := by
  rw [pAtomList, h]
  simp only [hr, Bool.false_eq_true, if_false, h']

theorem pTerm_not {f : Nat} {r r' : List Tok} {t : OT} (h : pTerm prec f r = some (t, r')) :
    pTerm prec (f + 1) (.other "not" :: r) = some (.not t, r') := by
  rw [pTerm, h]

theorem pTerm_atom {f : Nat} {s : String} {tl r : List Tok} {a : OT} (hs : s ≠ "not")
    (h : pAtomList prec f (.other s :: tl) = some ([a], r)) :
    pTerm prec (f + 1) (.other s :: tl) = some (a, r) := by
  rw [pTerm, h]
  intro r h
  cases h
  exact hs rfl

theorem pTerm_app {f : Nat} {s : String} {tl r : List Tok} {as : List OT} (hs : s ≠ "not") (hlen : 2 ≤ as.length)
    (h : pAtomList prec f (.other s :: tl) = some (as, r)) :
    pTerm prec (f + 1) (.other s :: tl) = some (.app as, r) := by
  rw [pTerm, h]
  · match as, hlen with
    | _ :: _ :: _, _ => rfl
  · intro r h
    cases h
    exact hs rfl

/-- All three parsers with the same fuel: each calls the others with exactly one unit less, so `Reads F` gives
`Reads (F + 1)` and the fuel is the only bound.  `pAtom` stands two calls below `pTerm`, hence its `F + 2`; that
of `args` is there for a single operand, which `pTerm` reads as a list of one: `needArgs [t] = need t + 1`. -/
structure Reads (F : Nat) : Prop where
  term : ∀ t, WFOT prec t → need t ≤ F → ∀ r, isEndOfTerm r = true → pTerm prec F (renderOT t ++ r) = some (t, r)
  args : ∀ t ts, WFArgs prec (t :: ts) → needArgs (t :: ts) ≤ F + 2 → ∀ r, isEndOfTerm r = true →
    pAtomList prec F (renderOTs (t :: ts) ++ r) = some (t :: ts, r)
  atom : ∀ t, isAtomLevel t = true → WFOT prec t → need t ≤ F + 2 → ∀ r,
    pAtom prec F (renderOT t ++ r) = some (t, r)

theorem reads_zero : Reads prec 0 where
  term t _ h := absurd (Nat.le_trans (need_pos t) h) (Nat.not_succ_le_zero 0)
  args t ts hw h := by
    have := need_atomLevel hw.1
    simp only [needArgs] at h
    omega
  atom t hl _ h := by
    have := need_atomLevel hl
    omega

theorem reads_succ {F : Nat} (ih : Reads prec F) : Reads prec (F + 1) where
  term t hw hF r hr := by
    by_cases hl : isAtomLevel t = true
    · obtain ⟨s, tl, hs, _, hs2⟩ := notEnd_of_atomLevel prec t hl hw r
      have hargs := ih.args t [] ⟨hl, hw, trivial⟩ (by simp only [needArgs]; omega) r hr
      rw [renderOTs, renderOTs, List.append_nil, hs] at hargs
      rw [hs]
      exact pTerm_atom prec hs2 hargs
    · cases t with
      | name _ => exact absurd rfl hl
      | paren _ => exact absurd rfl hl
      | not t =>
        simp only [need] at hF
        exact pTerm_not prec (ih.term t hw (by omega) r hr)
      | app ts =>
        simp only [need] at hF
        cases ts with
        | nil => exact absurd hw.1 (by simp)
        | cons t1 ts1 =>
          have hargs := ih.args t1 ts1 hw.2 (by omega) r hr
          obtain ⟨s, tl, hs, _, hs2⟩ := notEnd_of_atomLevel prec t1 hw.2.1 hw.2.2.1 (renderOTs ts1 ++ r)
          rw [renderOTs, List.append_assoc, hs] at hargs
          rw [renderOT, renderOTs, List.append_assoc, hs]
          exact pTerm_app prec hs2 hw.1 hargs
  args t ts hw hF r hr := by
    obtain ⟨hl, hwt, hwts⟩ := hw
    simp only [needArgs] at hF
    have hat := ih.atom t hl hwt (by omega) (renderOTs ts ++ r)
    rw [renderOTs, List.append_assoc]
    cases ts with
    | nil => exact pAtomList_last prec hat hr
    | cons t2 ts2 =>
      -- every argument but the last is followed by the first token of the next, which does not end a term
      obtain ⟨s, tl, hs, hs1, _⟩ := notEnd_of_atomLevel prec t2 hwts.1 hwts.2.1 (renderOTs ts2 ++ r)
      have hne : isEndOfTerm (renderOTs (t2 :: ts2) ++ r) = false := by
        rw [renderOTs, List.append_assoc, hs]
        exact isEndOfTerm_other hs1 tl
      exact pAtomList_more prec hat hne (ih.args t2 ts2 hwts (by omega) r hr)
  atom t hl hw hF r := by
    cases t with
    | not _ => cases hl
    | app _ => cases hl
    | name s => exact pAtom_name prec hw.1 hw.2.1 F r
    | paren e =>
      -- between the parentheses stands a chain whose operands `pTerm` reads, so `exprP` returns its grouping
      -- (`exprP_eq_groupR`), and the grouping of the chain of a canonical tree is the tree (`group_of_canon`)
      simp only [need] at hF
      obtain ⟨hwg, hcan, hranks⟩ := hw
      have hops := operands_of_flatten prec e hwg F (by omega)
      have hlen := chain_fuel_le_needG e
      have hok : TermOK (pTerm prec F) renderOT (fun a => WFOT prec a ∧ need a ≤ F)
          (fun r => isEndOfTerm r = true) :=
        ⟨fun a ha => ih.term a ha.1 ha.2, fun _ => rfl, fun _ _ => rfl⟩
      have hexpr := exprP_eq_groupR prec (pTerm prec F) renderOT _ _ hok (flatten e).1 (dec (flatten e).2)
        hops.1 (by rw [strip_dec]; exact hops.2) (.other ")" :: r) (ends_rparen r) rfl 1
        (fun x hx => hranks x.1 ((mem_opsOfG e x.1).2 (List.mem_map_of_mem (strip_dec (flatten e).2 ▸ hx))))
        F (by rw [dec, List.length_map]; omega)
      rw [strip_dec, group_of_canon prec e hcan] at hexpr
      rw [renderOT, renderG_flatten, List.cons_append, List.append_assoc, List.append_assoc]
      exact pAtom_paren prec hexpr

theorem reads_all : ∀ F, Reads prec F := by
  intro F
  induction F with
  | zero => exact reads_zero prec
  | succ F ih => exact reads_succ prec ih

/-- **the concrete term parser reads back every well-formed operand** -/
theorem pTerm_reads (t : OT) (hw : WFOT prec t) (F : Nat) (hF : need t ≤ F) (r : List Tok) (hr : isEndOfTerm r = true) :
    pTerm prec F (renderOT t ++ r) = some (t, r) :=
  (reads_all prec F).term t hw hF r hr

/-- **C08 for the whole expression parser of the fragment**: an operand followed by a chain of
operators (any number of ends of line before each) over well-formed operands — names, applications,
`not`, parenthesised canonical expressions nested to any depth — is parsed to the reference grouping,
and everything up to `rest` is consumed. -/
theorem expr_roundtrip (a0 : OT) (c : List (Nat × Nat × OT)) (f : Nat)
    (ha0 : WFOT prec a0 ∧ need a0 ≤ f) (hall : ∀ e ∈ c, WFOT prec e.2.2 ∧ need e.2.2 ≤ f)
    (rest : List Tok) (hends : Ends rest) (hend : isEndOfTerm rest = true)
    (m : Nat) (hm : ∀ e ∈ strip c, m ≤ prec e.1) (F : Nat) (hF : 2 * c.length + 2 ≤ F) :
    exprP (pTerm prec f) prec F m (renderOT a0 ++ (chainToks renderOT c ++ rest)) =
      some (group prec (.atom a0) (strip c), rest) := by
  have hok : TermOK (pTerm prec f) renderOT (fun a => WFOT prec a ∧ need a ≤ f) (fun r => isEndOfTerm r = true) :=
    ⟨fun a ha r hr => pTerm_reads prec a ha.1 f ha.2 r hr, fun r => rfl, fun k r => rfl⟩
  have hall' : ∀ e ∈ strip c, WFOT prec e.2 ∧ need e.2 ≤ f := by
    intro e he
    obtain ⟨x, hx, rfl⟩ := List.mem_map.1 he
    exact hall x hx
  exact exprP_eq_groupR prec (pTerm prec f) renderOT _ _ hok a0 c ha0 hall' rest hends hend m hm F hF

def prec45 : Nat → Nat := fun k => if k = 0 then 4 else 5

/-- `f x (a * b)` is a well-formed operand for ranks +:4 (id 0), *:5 (id 1) -/
def sampleOT : OT := .app [.name "f", .name "x", .paren (.bin 1 (.atom (.name "a")) (.atom (.name "b")))]

theorem sampleOT_wf : WFOT prec45 sampleOT := by
  simp [sampleOT, WFOT, WFArgs, WFG, isAtomLevel, goodName, Canon, rootOK, opsOfG, prec45]

/-- `not g  <EOL> + f x (a * b) )` : by the theorem the parser returns  (not g) + (f x (a * b))  and leaves `)` -/
example : exprP (pTerm prec45 40) prec45 8 1
    (renderOT (.not (.name "g")) ++ (chainToks renderOT [(1, 0, sampleOT)] ++ [.other ")"])) =
    some (.bin 0 (.atom (.not (.name "g"))) (.atom sampleOT), [.other ")"]) := by
  have h := expr_roundtrip prec45 (.not (.name "g")) [(1, 0, sampleOT)] 40
    ⟨by simp [WFOT, goodName], by simp [need]⟩
    (by intro e he; simp at he; subst he; exact ⟨sampleOT_wf, by simp [sampleOT, need, needArgs, needG]⟩)
    [.other ")"] (ends_rparen []) rfl 1
    (by intro e he; simp [strip] at he; subst he; decide) 8 (by simp)
  simpa [strip, group, Folang.Prec.insert] using h

end Folang.Props.C08T
