import Folang.Model.Infer
/-
C02 — inferred Go signatures are the principal Folang types.  (PARTIAL)

Proved, for all types (first-order terms of any depth) and all substitutions:
  `compositeTp_complete` every unifier of lhs and rhs satisfies the relations compositeTp returns
                         (the relations never over-constrain: most-generality of each step);
  `compositeTp_sound`    for shape-compatible lhs / rhs every substitution satisfying the returned
                         relations unifies them, and the returned type is their common instance;
  `hoist_*`              exactly the distinct leftover variables are renamed, the k-th in order of first
                         occurrence to T{k}, so the new names are T0 … T(n-1) in that order;
  `alloc_fresh`          every allocated type variable is distinct from all allocated since the last
                         reset (so every reference to a generic function is instantiated independently).
NOT proved: the resolver fixpoint (EquivSet / updateResolver) computes a most general unifier of all
collected relations; constraint collection over the AST; field-access types.  Tied by the C02 stream
(annotation-erasure metamorphic runs through the real compiler, expected signatures, go build).
-/
namespace Folang.Props.C02
open Folang.Infer

theorem satisfies_append (σ : Subst) (a b : List Rel) : Satisfies σ (a ++ b) ↔ Satisfies σ a ∧ Satisfies σ b :=
  List.forall_mem_append

theorem satisfies_nil (σ : Subst) : Satisfies σ [] :=
  fun _ hr => nomatch hr

theorem satisfies_one (σ : Subst) (a : String) (t : ITy) : Satisfies σ [(a, t)] ↔ σ a = t.subst σ :=
  List.forall_mem_singleton

theorem compositeTp_var_left (σ : Subst) (a : String) (r : ITy) :
    (Satisfies σ (compositeTp (.var a) r).2 ↔ σ a = r.subst σ) ∧
    (σ a = r.subst σ → (compositeTp (.var a) r).1.subst σ = σ a) := by
  match r with
  | .var b =>
    unfold compositeTp
    split
    · next e =>
      subst e
      exact ⟨⟨fun _ => rfl, fun _ => satisfies_nil σ⟩, fun _ => rfl⟩
    · split
      · exact ⟨satisfies_one σ a (.var b), fun h => h.symm⟩
      · exact ⟨(satisfies_one σ b (.var a)).trans eq_comm, fun _ => rfl⟩
  | .con g bs => exact ⟨satisfies_one σ a _, fun h => h.symm⟩

theorem compositeTp_var_right (σ : Subst) (g : String) (as : List ITy) (b : String) :
    (Satisfies σ (compositeTp (.con g as) (.var b)).2 ↔ σ b = (ITy.con g as).subst σ) ∧
    (compositeTp (.con g as) (.var b)).1 = .con g as :=
  ⟨satisfies_one σ b _, rfl⟩

mutual
theorem compositeTp_complete (σ : Subst) : ∀ (l r : ITy), l.subst σ = r.subst σ → Satisfies σ (compositeTp l r).2
  | .var a, r, h => (compositeTp_var_left σ a r).1.mpr h
  | .con h1 as1, .var b, h => (compositeTp_var_right σ h1 as1 b).1.mpr h.symm
  | .con h1 as1, .con h2 as2, h => by
    simp only [compositeTp]
    split
    · simp only [ITy.subst, ITy.con.injEq] at h
      exact compositeTpList_complete σ as1 as2 h.2
    · exact satisfies_nil σ
theorem compositeTpList_complete (σ : Subst) : ∀ (ls rs : List ITy), substList σ ls = substList σ rs →
    Satisfies σ (compositeTpList ls rs).2
  | [], _, _ => by simp [compositeTpList, satisfies_nil]
  | _ :: _, [], _ => by simp [compositeTpList, satisfies_nil]
  | l :: ls, r :: rs, h => by
    simp only [substList, List.cons.injEq] at h
    simp only [compositeTpList]
    exact (satisfies_append σ _ _).mpr ⟨compositeTp_complete σ l r h.1, compositeTpList_complete σ ls rs h.2⟩
end

mutual
/-- same shape wherever both sides are constructors -/
def Compatible : ITy → ITy → Prop
  | .var _, _ => True
  | .con _ _, .var _ => True
  | .con h1 as1, .con h2 as2 => h1 = h2 ∧ as1.length = as2.length ∧ CompatibleList as1 as2
def CompatibleList : List ITy → List ITy → Prop
  | l :: ls, r :: rs => Compatible l r ∧ CompatibleList ls rs
  | _, _ => True
end

mutual
/-- soundness: on compatible types the relations suffice, and the result is the common instance -/
theorem compositeTp_sound (σ : Subst) : ∀ (l r : ITy), Compatible l r → Satisfies σ (compositeTp l r).2 →
    l.subst σ = r.subst σ ∧ (compositeTp l r).1.subst σ = l.subst σ
  | .var a, r, _, hs =>
    have h := compositeTp_var_left σ a r
    ⟨h.1.mp hs, h.2 (h.1.mp hs)⟩
  | .con h1 as1, .var b, _, hs =>
    have h := compositeTp_var_right σ h1 as1 b
    ⟨(h.1.mp hs).symm, by rw [h.2]⟩
  | .con h1 as1, .con h2 as2, hc, hs => by
    obtain ⟨hh, hl, hcl⟩ := hc
    simp only [compositeTp, hh, hl, and_self, if_true] at hs ⊢
    have := compositeTpList_sound σ as1 as2 hl hcl hs
    subst hh
    simp only [ITy.subst, this.1, this.2, and_self]
theorem compositeTpList_sound (σ : Subst) : ∀ (ls rs : List ITy), ls.length = rs.length → CompatibleList ls rs →
    Satisfies σ (compositeTpList ls rs).2 →
    substList σ ls = substList σ rs ∧ substList σ (compositeTpList ls rs).1 = substList σ ls
  | [], [], _, _, _ => ⟨rfl, rfl⟩
  | [], _ :: _, hl, _, _ => nomatch hl
  | _ :: _, [], hl, _, _ => nomatch hl
  | l :: ls, r :: rs, hl, hc, hs => by
    simp only [compositeTpList] at hs ⊢
    obtain ⟨h1, h2⟩ := (satisfies_append σ _ _).mp hs
    have a := compositeTp_sound σ l r hc.1 h1
    have b := compositeTpList_sound σ ls rs (Nat.succ.inj hl) hc.2 h2
    simp only [substList, a.1, a.2, b.1, b.2, and_self]
end

theorem distinct_nodup (occ : List String) : (distinct occ).Nodup := by
  induction occ with
  | nil => simp [distinct]
  | cons x xs ih =>
    simp only [distinct, List.nodup_cons]
    exact ⟨by simp, ih.filter _⟩

theorem mem_distinct (occ : List String) (a : String) : a ∈ distinct occ ↔ a ∈ occ := by
  induction occ with
  | nil => simp [distinct]
  | cons x xs ih =>
    simp only [distinct, List.mem_cons, List.mem_filter, ih]
    by_cases ha : a = x <;> simp [ha]

/-- exactly the leftover variables are renamed, each once -/
theorem hoist_domain (occ : List String) : (hoistNames occ).map (·.1) = distinct occ := by
  simp [hoistNames, List.map_map, Function.comp_def]

/-- the k-th variable in first-occurrence order becomes T{k} -/
theorem hoist_first_occurrence (occ : List String) (k : Nat) (v : String) (h : (distinct occ)[k]? = some v) :
    (hoistNames occ)[k]? = some (v, "T" ++ toString k) := by
  simp only [hoistNames, List.getElem?_map, List.getElem?_zipIdx, h, Option.map_some]
  simp

/-- the new names are T0 … T(n-1) in order -/
theorem hoist_names (occ : List String) :
    (hoistNames occ).map (·.2) = (List.range (distinct occ).length).map (fun k => "T" ++ toString k) := by
  simp only [hoistNames, List.map_map]
  apply List.ext_getElem?
  intro k
  simp only [List.getElem?_map, List.getElem?_zipIdx]
  by_cases hk : k < (distinct occ).length <;> simp [hk]

/-- invariant: everything allocated is below seqId, without repetition -/
def AllocInv (a : Alloc) : Prop := a.allocated.Nodup ∧ ∀ n ∈ a.allocated, n < a.seqId

theorem alloc_inv_reset : AllocInv Alloc.reset := by simp [AllocInv, Alloc.reset]

theorem alloc_inv_step (a a' : Alloc) (n : Nat) (inv : AllocInv a) (h : a.allocate = some (n, a')) :
    AllocInv a' ∧ n ∉ a.allocated ∧ a'.allocated = a.allocated ++ [n] := by
  unfold Alloc.allocate at h
  split at h
  · cases h
  · cases h
    have hn : a.seqId ∉ a.allocated := fun hin => Nat.lt_irrefl _ (inv.2 _ hin)
    refine ⟨⟨?_, ?_⟩, hn, rfl⟩
    · exact (List.perm_append_singleton _ _).nodup_iff.mpr (List.nodup_cons.mpr ⟨hn, inv.1⟩)
    · exact List.forall_mem_append.mpr
        ⟨fun m hm => Nat.lt_succ_of_lt (inv.2 m hm), List.forall_mem_singleton.mpr (Nat.lt_succ_self _)⟩

/-- k allocations in a row -/
def allocMany : Nat → Alloc → Option Alloc
  | 0, a => some a
  | k + 1, a => (allocMany k a).bind (fun x => x.allocate.map (·.2))

theorem allocMany_inv : ∀ (k : Nat) (a a' : Alloc), AllocInv a → allocMany k a = some a' → AllocInv a'
  | 0, a, a', inv, h => by
    cases h
    exact inv
  | k + 1, a, a', inv, h => by
    simp only [allocMany, Option.bind_eq_some_iff, Option.map_eq_some_iff] at h
    obtain ⟨b, hb, ⟨n, a''⟩, hal, rfl⟩ := h
    exact (alloc_inv_step b a'' n (allocMany_inv k a b inv hb) hal).1

/-- **alloc_fresh**: whatever number of allocations follows a reset, the allocated variables are
pairwise distinct: every reference to a generic function gets variables different from all others -/
theorem alloc_fresh (k : Nat) (a' : Alloc) (h : allocMany k Alloc.reset = some a') : a'.allocated.Nodup :=
  (allocMany_inv k _ a' alloc_inv_reset h).1

/-- non-vacuity: int->T1->[]string against int->int->[]T2 (the example in the source comment) -/
example :
    compositeTp (.con "->" [.con "int" [], .var "T1", .con "[]" [.con "string" []]])
                (.con "->" [.con "int" [], .con "int" [], .con "[]" [.var "T2"]]) =
    (.con "->" [.con "int" [], .con "int" [], .con "[]" [.con "string" []]],
     [("T1", .con "int" []), ("T2", .con "string" [])]) := by
  simp [compositeTp, compositeTpList]

end Folang.Props.C02
