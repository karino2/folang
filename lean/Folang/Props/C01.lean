import Folang.Props.C08
import Folang.Props.C09
import Folang.Props.C11
import Folang.Props.C14
/-
C01 — transpiled programs behave exactly as their Folang source specifies.  (PARTIAL)

`C01_full` is the full statement (a verified-compiler theorem for the whole pipeline); it is NOT
proved.  What is machine-checked here:
  * the mechanisms the property's anchors name, each for all inputs, in the files that prove them
    (imported here so that the audit of C01 can name them): operator grouping (C08 climb_eq_group),
    lazily evaluated branches (C14 ifElse_*, ifOnly_*), pipe = application (C14 pipe_spec), match
    dispatch to the constructing case (C09 dispatch_total), literals and interpolation (C11_*);
  * the partial-application lowering of fc before fix 9abc13f (D9; still what tinyfo does):
    fcPartialApplyGo with the given argument EXPRESSIONS inside the closure.  `papp_agrees_when_pure` —
    for effect-free given arguments that lowering has the reference trace and values, for any number
    of later calls; `papp_effects_late` — the witness that with an effectful argument it does not.
The reference semantics itself is executable Lean (Oracle/FSem.lean) and is compared with the compiled
output of the real pipeline on generated programs on every run (stream c01.prog).
-/
namespace Folang.Props.C01

/-- the full statement, over abstract functions: `fc` the transpiler, `goRun` compiling and running
Go, `evalFolang` the strict left-to-right lexically scoped reference semantics -/
def C01_full {Prog GoSrc : Type} (Documented WellTyped : Prog → Prop) (fc : Prog → Option GoSrc)
    (goRun : GoSrc → Option String) (evalFolang : Prog → Option String) : Prop :=
  ∀ p, Documented p → WellTyped p → ∃ g, fc p = some g ∧ goRun g = evalFolang p ∧ (evalFolang p).isSome

/-- effectful integer expressions: literals, sums, and `tr tag e` which prints `tag` after `e` -/
inductive E where
  | lit (n : Int)
  | add (a b : E)
  | tr (tag : String) (e : E)

/-- strict left-to-right evaluation: (trace, value) -/
def ev : E → List String × Int
  | .lit n => ([], n)
  | .add a b => ((ev a).1 ++ (ev b).1, (ev a).2 + (ev b).2)
  | .tr tag e => ((ev e).1 ++ [tag], (ev e).2)

/-- REFERENCE: `let f = g e1` evaluates `e1` once, at the binding; each later call `f aᵢ` evaluates
`aᵢ` and then runs the body (trace `body v1 vᵢ`) -/
def refRun (body : Int → Int → List String × Int) (e1 : E) (calls : List E) : List String × List Int :=
  let r1 := ev e1
  calls.foldl (fun acc a =>
    let ra := ev a
    let rb := body r1.2 ra.2
    (acc.1 ++ ra.1 ++ rb.1, acc.2 ++ [rb.2])) (r1.1, [])

/-- LOWERED, by fcPartialApplyGo before fix 9abc13f (kept as the witness of D9; tinyfo still lowers
this way): `f := func(_r0) { return g(e1, _r0) }`; each call evaluates the argument `aᵢ` (Go evaluates
call arguments first), then, inside the closure, `e1` AGAIN, then the body -/
def lowRun (body : Int → Int → List String × Int) (e1 : E) (calls : List E) : List String × List Int :=
  calls.foldl (fun acc a =>
    let ra := ev a
    let r1 := ev e1
    let rb := body r1.2 ra.2
    (acc.1 ++ ra.1 ++ r1.1 ++ rb.1, acc.2 ++ [rb.2])) ([], [])

/-- for an effect-free given argument the lowering preserves trace and values, for every body, every
sequence of later calls with arbitrary (effectful) arguments -/
theorem papp_agrees_when_pure (body : Int → Int → List String × Int) (e1 : E) (calls : List E)
    (pure : (ev e1).1 = []) : lowRun body e1 calls = refRun body e1 calls := by
  -- the two loops differ only by the trace of `e1` inside the step, which is empty
  simp only [lowRun, refRun, pure, List.append_nil]

/-- witness of D9: `let f = add (trI "arg" 1)`, then `f 2`, `f 3`: the reference prints "arg" once, before the
calls; this lowering prints it at every call -/
theorem papp_effects_late :
    let body : Int → Int → List String × Int := fun a b => ([], a + b)
    refRun body (.tr "arg" (.lit 1)) [.lit 2, .lit 3] = (["arg"], [3, 4]) ∧
    lowRun body (.tr "arg" (.lit 1)) [.lit 2, .lit 3] = (["arg", "arg"], [3, 4]) := by
  decide

end Folang.Props.C01
