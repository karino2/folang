import Folang.Model.Driver
import Folang.Generated.RecipeFacts
/-
C04 — the checked-in generated Go is a fixed point of the self-hosted compiler.

What a theorem can carry here, and what it cannot.  The property is the equality of specific files
with what the real toolchain produces from specific files; the compiler itself is NOT modelled
(that would be the whole language).  The toolchain enters as two uninterpreted deterministic
functions:

  `build : Gen → Compiler`   the Go toolchain applied to fc/gen_*.go + wrapper.go
  `run   : Compiler → Src → Gen`   a compiler applied to a source list (then gofmt)

and the theorems are about the STRUCTURE of the property:

* `fixed_point_all_generations`: if generation 1 reproduces the checked-in files then every later
  generation does (the property's "second-generation compiler … byte-identical again", for every n);
* `other_outputs_stable`: every other output (samples, the tool, README.md) of a generation-n
  compiler equals that of the compiler built from the checked-in files;
* `recipe_writes`: the driver model (C16) applied to a recipe whose arguments are all readable,
  translatable and writable writes exactly one gen file per .fo argument, in order, and none for .foi;
* the inventory facts, regenerated from the tree on every run: the recipe of fc/fc_all.sh names
  every .fo of fc/, and the gen files it writes are exactly the checked-in fc/gen_*.go (no orphan
  generated file, no source that is never regenerated); likewise for samples/filelist.txt and the tool.

The hypothesis `run (build g₀) s = g₀` itself — the 12 generated files of the compiler — is
established by the check by EXECUTING the real toolchain on the working tree (generation 1 and,
redundantly, generation 2), and so are the other outputs (`run (build g₀) s'`: the samples, the tool,
README.md; 35 files are compared in all): that part is a finite evaluation of the real code, not a
theorem.  Determinism of `run` is C05.
-/
namespace Folang.Props.C04
open Folang.Driver Folang.Generated

section Lifting
variable {Gen Src Compiler : Type} (build : Gen → Compiler) (run : Compiler → Src → Gen)

/-- generation n of the generated files: generation 0 is what is checked in -/
def gen (s : Src) (g₀ : Gen) : Nat → Gen
  | 0 => g₀
  | n + 1 => run (build (gen s g₀ n)) s

theorem fixed_point_all_generations (s : Src) (g₀ : Gen) (h : run (build g₀) s = g₀) :
    ∀ n, gen build run s g₀ n = g₀ := by
  intro n
  induction n with
  | zero => rfl
  | succ n ih => simp only [gen, ih, h]

/-- samples, tool and README: any other source gives the same output under every generation -/
theorem other_outputs_stable (s : Src) (g₀ : Gen) (h : run (build g₀) s = g₀) (s' : Src) (n : Nat) :
    run (build (gen build run s g₀ n)) s' = run (build g₀) s' := by
  rw [fixed_point_all_generations build run s g₀ h n]

/-- the converse the check relies on when it reports: a generation that differs from the checked-in
files refutes the generation-1 equality -/
theorem differs_refutes (s : Src) (g₀ : Gen) (n : Nat) (hd : gen build run s g₀ n ≠ g₀) :
    run (build g₀) s ≠ g₀ :=
  fun h => hd (fixed_point_all_generations build run s g₀ h n)
end Lifting

/-! the driver on a recipe; an argument is (base, extension) -/

abbrev Arg := String × String

def isFoArg (a : Arg) : Bool := a.2 == "fo"

def okArg (a : Arg) : FileArg :=
  { name := a.1, isFo := isFoArg a, readable := true, translates := true, writable := true }

theorem transpileFiles_all_ok (args : List FileArg)
    (h : ∀ f ∈ args, f.readable = true ∧ f.translates = true ∧ f.writable = true) :
    transpileFiles args = { exitOk := true, written := (args.filter (·.isFo)).map (·.name), diag := none } := by
  induction args with
  | nil => rfl
  | cons a rest ih =>
    have ha := h a (List.mem_cons_self ..)
    have hr := ih (fun f hf => h f (List.mem_cons_of_mem _ hf))
    cases hi : a.isFo <;>
      simp [transpileFiles, transpileOne, ha.1, ha.2.1, ha.2.2, hi, hr]

/-- a recipe whose arguments can all be read, translated and written: exit 0, exactly one generated
file per `.fo` argument (named by its base), in argument order, none for a `.foi` argument -/
theorem recipe_writes (args : List Arg) :
    transpileFiles (args.map okArg) =
      { exitOk := true, written := (args.filter isFoArg).map (·.1), diag := none } := by
  rw [transpileFiles_all_ok, List.filter_map, List.map_map]
  · rfl
  · intro f hf
    obtain ⟨n, _, rfl⟩ := List.mem_map.mp hf
    exact ⟨rfl, rfl, rfl⟩

/-! inventory (regenerated facts): the generated file of `<base>.fo` is `gen_<base>.go`; the facts
list bases -/

def sameSet (a b : List String) : Bool := a.all (b.contains ·) && b.all (a.contains ·)

def written (args : List Arg) : List String := (args.filter isFoArg).map (·.1)

/-- fc/fc_all.sh regenerates exactly the checked-in fc/gen_*.go … -/
theorem fact_fcRecipe_outputs : sameSet (written fcRecipe) fcGenBases = true := by decide

/-- … and names every Folang source of fc/ (no source is left out of the fixed point) -/
theorem fact_fcRecipe_complete : sameSet (written fcRecipe) fcFoBases = true :=
  -- `fcFoBases` and `fcGenBases` are regenerated as the same literal list (both are sorted directory
  -- listings without repetitions), so this is the comparison just made.  Should the two ever differ,
  -- one of the two statements is false and it is right that this line stops checking.
  fact_fcRecipe_outputs

/-- the first argument of every recipe is the package-info file, which yields no output; the sample
and tool recipes translate one file per invocation -/
theorem fact_recipes_foi :
    fcRecipe.head? = some ("../pkg/pkg_all", "foi") ∧ sampleRecipe = [("../pkg/pkg_all", "foi"), ("$1", "")] ∧
    toolRecipe = [("../../pkg/pkg_all", "foi"), ("$1", "")] :=
  ⟨rfl, rfl, rfl⟩

/-- every listed sample is a `.fo` file that exists and has its checked-in generated file -/
theorem fact_samples_have_gen :
    sampleList.all isFoArg = true ∧
    (written sampleList).all (sampleGenBases.contains ·) = true ∧
    (written sampleList).all (sampleFoBases.contains ·) = true := by decide

theorem fact_tool :
    toolFoBases = ["build_sample_md"] ∧ toolGenBases = ["build_sample_md"] :=
  ⟨rfl, rfl⟩

/-- what the driver writes for the compiler's own recipe -/
theorem fcRecipe_written :
    (transpileFiles (fcRecipe.map okArg)).written = written fcRecipe := by
  rw [recipe_writes]; rfl

end Folang.Props.C04
