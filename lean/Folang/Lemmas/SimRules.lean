import Folang.Lemmas.SimRel
import Folang.Lemmas.SimMono
import Folang.Lemmas.Eventually
/-
How evaluations of Go-core compose, in two forms.

Where the lowering is homomorphic (most of it), source and target evaluate the same `Res.bind` chain, and the
simulation is a congruence: `Res.sim R x y` says that whatever the source computation `x` yields, the
fuel-indexed target computation `y` yields from some fuel on (`Yields`, a case of `Eventually`), with the same output and an
`R`-related value; `Res.sim.bind` composes two of them.  "From some fuel on" is what makes `bind` free of
side conditions: two lower bounds have a common one, no monotonicity is asked of the pieces.  Fuel
monotonicity enters once, where a result at ONE fuel becomes `Yields` (`Yields.of_le`, `gev_expr`, `SimAt.expr'`).

Where the lowering changes the shape (closure of a partial application and its call, immediately invoked
func literal, `frt.IfOnly`), and where a fixed statement names its fuel, big-step rules derived from `gevalN`:
premises at any fuels, each at its own, conclusion at their maximum plus the levels the shape spends; a
caller gives `⟨_, gv, rule h1 h2, …⟩` and the fuel is found by unification.
-/
namespace Folang.Sem

variable {GP : GProg} {genv : GEnv}

section lift
variable {m m' : Nat} (hle : m ≤ m')
include hle

theorem g_lift_expr {e : GExpr} {r : Trace × GVal} (h : (gevalN GP m).expr genv e = some r) :
    (gevalN GP m').expr genv e = some r := (gevalN_mono GP hle).expr genv e r h

theorem g_lift_body {b : GBody} {r : Trace × GVal} (h : (gevalN GP m).body genv b = some r) :
    (gevalN GP m').body genv b = some r := (gevalN_mono GP hle).body genv b r h

theorem g_lift_list {es : List GExpr} {r : Trace × List GVal} (h : evalList (gevalN GP m).expr genv es = some r) :
    evalList (gevalN GP m').expr genv es = some r := evalList_le (gevalN_mono GP hle).expr genv es r h

theorem g_lift_stmts {ss : List GStmt} {r : Trace × GEnv} (h : grunStmts (gevalN GP m) genv ss = some r) :
    grunStmts (gevalN GP m') genv ss = some r := grunStmts_le (gevalN_mono GP hle) genv ss r h

end lift

variable {m1 m2 : Nat} {t1 t2 : Trace}

theorem g_var (m : Nat) {x : String} {gv : GVal} (h : lookup genv x = some gv) :
    (gevalN GP (m + 1)).expr genv (.var x) = some ([], gv) :=
  congrArg ofOpt h

theorem g_funcLit (m : Nat) (ps : List String) (b : GBody) :
    (gevalN GP (m + 1)).expr genv (.funcLit ps b) = some ([], .clo ps b genv) := rfl

theorem g_prim {m : Nat} {p : Prim} {ges : List GExpr} {gvs : List GVal} {fos : List FO} {v : FO}
    (h1 : evalList (gevalN GP m).expr genv ges = some (t1, gvs)) (h2 : gtoFOs gvs = some fos)
    (h3 : primFO p fos = some (t2, v)) :
    (gevalN GP (m + 1)).expr genv (.prim p ges) = some (t1 ++ t2, .fo v) :=
  Res.bind_some h1 (by rw [h2]; exact Res.bind_some_nil h3 rfl)

theorem g_callFn {f : String} {ges : List GExpr} {gvs : List GVal} {d : GFunDef} {v : GVal}
    (h1 : evalList (gevalN GP m1).expr genv ges = some (t1, gvs)) (hf : GP.find f = some d)
    (hlen : d.params.length = gvs.length)
    (h2 : (gevalN GP m2).body (d.params.zip gvs).reverse d.body = some (t2, v)) :
    (gevalN GP (max m1 m2 + 1)).expr genv (.callFn f ges) = some (t1 ++ t2, v) :=
  Res.bind_some (g_lift_list (Nat.le_max_left ..) h1)
    (by simp only [hf, hlen, if_true]; exact g_lift_body (Nat.le_max_right ..) h2)

theorem g_app_clo {m : Nat} {ps : List String} {b : GBody} {cenv : GEnv} {args : List GVal} {r : Trace × GVal}
    (hlen : ps.length = args.length)
    (h : (gevalN GP m).body ((ps.zip args).reverse ++ cenv) b = some r) :
    (gevalN GP (m + 1)).app (.clo ps b cenv) args = some r := by
  simp only [gevalN, gstepApp, hlen, if_true, h]

theorem g_thunk {m : Nat} {b : GBody} {r : Trace × GVal}
    (h : (gevalN GP m).body genv b = some r) : (gevalN GP (m + 1)).app (.clo [] b genv) [] = some r :=
  g_app_clo rfl h

theorem gexpr_succ (n : Nat) : (gevalN GP (n + 1)).expr = gstepExpr (gevalN GP n) GP := rfl

/- the one rule proved by `simp`: the func literal and the empty argument list are silent, and as a term
`Res.bind_some` would have to unify its trace `[] ++ ?t` with the variable `t` -/
theorem g_iife {m : Nat} {b : GBody} {t : Trace} {v : GVal}
    (h : (gevalN GP m).body genv b = some (t, v)) :
    (gevalN GP (m + 2)).expr genv (.callVal (.funcLit [] b) []) = some (t, v) := by
  rw [show m + 2 = (m + 1) + 1 from rfl, gexpr_succ]
  simp [gstepExpr, g_funcLit, evalList, g_thunk h, Res.bind, Res.pure]

theorem g_ifOnly_true {c : GExpr} {tb : GBody} {v : GVal}
    (h1 : (gevalN GP m1).expr genv c = some (t1, .fo (.lit (.bool true))))
    (h2 : (gevalN GP m2).body genv tb = some (t2, v)) :
    (gevalN GP (max m1 m2 + 2)).expr genv (.ifOnly c (.funcLit [] tb)) = some (t1 ++ t2, .fo (.lit .unit)) :=
  Res.bind_some (g_lift_expr (Nat.le_succ_of_le (Nat.le_max_left ..)) h1)
    (Res.bind_some (g_funcLit _ [] tb) (Res.bind_some_nil (g_thunk (g_lift_body (Nat.le_max_right ..) h2)) rfl))

theorem g_ifOnly_false {m : Nat} {c : GExpr} {tb : GBody} {t : Trace}
    (h : (gevalN GP m).expr genv c = some (t, .fo (.lit (.bool false)))) :
    (gevalN GP (m + 2)).expr genv (.ifOnly c (.funcLit [] tb)) = some (t, .fo (.lit .unit)) :=
  Res.bind_some_nil (g_lift_expr (Nat.le_succ m) h) (Res.bind_some (g_funcLit m [] tb) rfl)

theorem g_define {x : String} {e : GExpr} {ss : List GStmt} {v : GVal} {genv' : GEnv}
    (h1 : (gevalN GP m1).expr genv e = some (t1, v))
    (h2 : grunStmts (gevalN GP m2) ((x, v) :: genv) ss = some (t2, genv')) :
    grunStmts (gevalN GP (max m1 m2)) genv (.define x e :: ss) = some (t1 ++ t2, genv') :=
  Res.bind_some (g_lift_expr (Nat.le_max_left ..) h1) (g_lift_stmts (Nat.le_max_right ..) h2)

theorem g_stmts_nil (m : Nat) : grunStmts (gevalN GP m) genv [] = some ([], genv) := rfl

theorem g_body_ret {genv' : GEnv} {ss : List GStmt} {e : GExpr} {v : GVal}
    (h1 : grunStmts (gevalN GP m1) genv ss = some (t1, genv'))
    (h2 : (gevalN GP m2).expr genv' e = some (t2, v)) :
    (gevalN GP (max m1 m2 + 1)).body genv (.mk ss (.ret e)) = some (t1 ++ t2, v) :=
  Res.bind_some (g_lift_stmts (Nat.le_max_left ..) h1) (g_lift_expr (Nat.le_max_right ..) h2)

/-- the fuel-indexed computation `y` yields `r` from some fuel on -/
def Yields {β : Type} (y : Nat → Res β) (r : Trace × β) : Prop := Eventually fun m => y m = some r

namespace Yields
variable {β γ : Type} {y : Nat → Res β}

theorem of_le (hy : ∀ {m m'}, m ≤ m' → Res.le (y m) (y m')) {m : Nat} {r : Trace × β} (h : y m = some r) : Yields y r :=
  ⟨m, fun _ hm => hy hm r h⟩

theorem pure (b : β) : Yields (fun _ => Res.pure b) ([], b) :=
  ⟨0, fun _ _ => rfl⟩

theorem succ {r : Trace × β} (h : Yields (fun m => y (m + 1)) r) : Yields y r :=
  Eventually.step h fun _ hm => hm

theorem bind {g : Nat → β → Res γ} {b : β} {c : γ} (hy : Yields y (t1, b)) (hg : Yields (fun m => g m b) (t2, c)) :
    Yields (fun m => (y m).bind (g m)) (t1 ++ t2, c) :=
  let ⟨m0, h⟩ := Eventually.and hy hg
  ⟨m0, fun m hm => Res.bind_some (h m hm).1 (h m hm).2⟩

end Yields

theorem gev_expr {e : GExpr} {m : Nat} {r : Trace × GVal} (h : (gevalN GP m).expr genv e = some r) :
    Yields (fun m => (gevalN GP m).expr genv e) r :=
  .of_le (fun h => (gevalN_mono GP h).expr genv e) h

theorem gev_app {f : GVal} {a : List GVal} {m : Nat} {r : Trace × GVal} (h : (gevalN GP m).app f a = some r) :
    Yields (fun m => (gevalN GP m).app f a) r :=
  .of_le (fun h => (gevalN_mono GP h).app f a) h

theorem gev_funcLit (ps : List String) (b : GBody) :
    Yields (fun m => (gevalN GP m).expr genv (.funcLit ps b)) ([], .clo ps b genv) :=
  gev_expr (g_funcLit 0 ps b)

theorem gev_stmts_nil : Yields (fun m => grunStmts (gevalN GP m) genv []) ([], genv) :=
  ⟨0, fun _ _ => rfl⟩

/-- whatever `x` yields, the fuel-indexed `y` yields from some fuel on: same output, `R`-related value -/
def Res.sim {α β : Type} (R : α → β → Prop) (x : Res α) (y : Nat → Res β) : Prop :=
  ∀ (tr : Trace) (a : α), x = some (tr, a) → ∃ b, Yields y (tr, b) ∧ R a b

namespace Res.sim
variable {α β γ δ : Type} {R : α → β → Prop} {S : γ → δ → Prop} {x : Res α} {y : Nat → Res β}

theorem stuck : Res.sim R Sem.stuck y := fun _ _ h => nomatch h

theorem pure {a : α} {b : β} (h : R a b) : Res.sim R (Res.pure a) (fun _ => Res.pure b) := by
  intro tr a' hx
  cases hx
  exact ⟨b, .pure b, h⟩

theorem refl : Res.sim Eq x (fun _ => x) :=
  fun _ a h => ⟨a, ⟨0, fun _ _ => h⟩, rfl⟩

theorem bind {f : α → Res γ} {g : Nat → β → Res δ} (hx : Res.sim R x y)
    (hf : ∀ a b, R a b → Res.sim S (f a) (fun m => g m b)) : Res.sim S (x.bind f) (fun m => (y m).bind (g m)) := by
  intro tr c h
  obtain ⟨t1, a, t2, h1, h2, rfl⟩ := Res.bind_eq_some.mp h
  obtain ⟨b, hy, hr⟩ := hx _ _ h1
  obtain ⟨d, hg, hs⟩ := hf a b hr _ _ h2
  exact ⟨d, hy.bind hg, hs⟩

/-- a step of the target alone: `y0` yields `c` without output -/
theorem bindR {y0 : Nat → Res γ} {c : γ} {g : Nat → γ → Res β} (h0 : Yields y0 ([], c)) (h : Res.sim R x (fun m => g m c)) :
    Res.sim R x (fun m => (y0 m).bind (g m)) := by
  intro tr a hx
  obtain ⟨b, hg, hr⟩ := h tr a hx
  exact ⟨b, h0.bind hg, hr⟩

/-- one level of `gevalN` is spent -/
theorem succ (h : Res.sim R x (fun m => y (m + 1))) : Res.sim R x y := by
  intro tr a hx
  obtain ⟨b, hy, hr⟩ := h _ _ hx
  exact ⟨b, hy.succ, hr⟩

theorem exists_fuel (h : Res.sim R x y) {tr : Trace} {a : α} (hx : x = some (tr, a)) :
    ∃ m b, y m = some (tr, b) ∧ R a b := by
  obtain ⟨b, ⟨m, hy⟩, hr⟩ := h _ _ hx
  exact ⟨m, b, hy m (Nat.le_refl m), hr⟩

variable {R : α → GVal → Prop}

theorem thunk {b : GBody} (h : Res.sim R x (fun m => (gevalN GP m).body genv b)) :
    Res.sim R x (fun m => (gevalN GP m).app (.clo [] b genv) []) :=
  .succ h

theorem iife {b : GBody} (h : Res.sim R x (fun m => (gevalN GP m).body genv b)) :
    Res.sim R x (fun m => gstepExpr (gevalN GP m) GP genv (.callVal (.funcLit [] b) [])) :=
  .bindR (gev_funcLit [] b) (.bindR (.pure []) h.thunk)

/- `y0` and `g` are given because the unifier, left to find them, evaluates `grunStmts _ genv []` first and then
fails to see the `Res.bind` -/
theorem iife_switch {t : GExpr} {cases : List GCase} (h : Res.sim R x (fun m => gevalSwitch (gevalN GP m) genv t cases)) :
    Res.sim R x (fun m => gstepExpr (gevalN GP m) GP genv (.callVal (.funcLit [] (.mk [] (.switch t cases))) [])) :=
  .iife (.succ (.bindR (y0 := fun m => grunStmts (gevalN GP m) genv [])
    (g := fun m genv' => gevalSwitch (gevalN GP m) genv' t cases) gev_stmts_nil h))

theorem iife_switchS {t : GExpr} {cases : List GSCase} (h : Res.sim R x (fun m => gevalSwitchS (gevalN GP m) genv t cases)) :
    Res.sim R x (fun m => gstepExpr (gevalN GP m) GP genv (.callVal (.funcLit [] (.mk [] (.switchS t cases))) [])) :=
  .iife (.succ (.bindR (y0 := fun m => grunStmts (gevalN GP m) genv [])
    (g := fun m genv' => gevalSwitchS (gevalN GP m) genv' t cases) gev_stmts_nil h))

end Res.sim

end Folang.Sem
