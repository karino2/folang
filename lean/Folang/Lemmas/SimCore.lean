import Folang.Lemmas.SimAux
/-
The simulation, one fuel level at a time.  `SimAt md P n`: every evaluation the source evaluator completes
with fuel n is matched by the Go-core evaluator on the lowered term (with some fuel), with the same
output and related values.  A primed theorem states its case as a congruence (`Res.sim`, Lemmas/SimRules.lean),
the form in which the cases compose; the unprimed one beside it says the same in the form of `SimAt`.
-/
namespace Folang.Sem

structure SimAt (md : Bool) (P : Prog) (n : Nat) : Prop where
  expr : ∀ {env : Env} {e : Expr} {tr : Trace} {v : SVal}, (evalN P n).expr env e = some (tr, v) → wfE md e = true →
    ∀ {genv : GEnv}, ERel md env genv →
      ∃ m gv, (gevalN (lowerProg md P) m).expr genv (lowerE md e) = some (tr, gv) ∧ VRel md v gv
  body : ∀ {env : Env} {b : Body} {tr : Trace} {v : SVal}, (evalN P n).body env b = some (tr, v) → wfB md b = true →
    ∀ {genv : GEnv}, ERel md env genv →
      ∃ m gv, (gevalN (lowerProg md P) m).body genv (lowerB md b) = some (tr, gv) ∧ VRel md v gv
  app : ∀ {f : SVal} {args : List SVal} {tr : Trace} {v : SVal}, (evalN P n).app f args = some (tr, v) →
    ∀ {gf : GVal} {gargs : List GVal}, VRel md f gf → VRels md args gargs →
      ∃ m gv, (gevalN (lowerProg md P) m).app gf gargs = some (tr, gv) ∧ VRel md v gv

variable {md : Bool} {P : Prog} {n : Nat}

theorem SimAt.expr' (ih : SimAt md P n) {env : Env} {e : Expr} {genv : GEnv} (hwf : wfE md e = true) (he : ERel md env genv) :
    Res.sim (VRel md) ((evalN P n).expr env e) (fun m => (gevalN (lowerProg md P) m).expr genv (lowerE md e)) :=
  fun _ _ h => (ih.expr h hwf he).elim fun _ ⟨gv, hg, hr⟩ => ⟨gv, gev_expr hg, hr⟩

theorem SimAt.body' (ih : SimAt md P n) {env : Env} {b : Body} {genv : GEnv} (hwf : wfB md b = true) (he : ERel md env genv) :
    Res.sim (VRel md) ((evalN P n).body env b) (fun m => (gevalN (lowerProg md P) m).body genv (lowerB md b)) :=
  fun _ _ h => (ih.body h hwf he).elim fun _ ⟨gv, hg, hr⟩ => ⟨gv, .of_le (fun h => (gevalN_mono _ h).body _ _) hg, hr⟩

theorem SimAt.app' (ih : SimAt md P n) {f : SVal} {args : List SVal} {gf : GVal} {gargs : List GVal}
    (hf : VRel md f gf) (ha : VRels md args gargs) :
    Res.sim (VRel md) ((evalN P n).app f args) (fun m => (gevalN (lowerProg md P) m).app gf gargs) :=
  fun _ _ h => (ih.app h hf ha).elim fun _ ⟨gv, hg, hr⟩ => ⟨gv, gev_app hg, hr⟩

theorem sim_list' (ih : SimAt md P n) {env : Env} {genv : GEnv} (he : ERel md env genv) : ∀ {es : List Expr}, wfL md es = true →
    Res.sim (VRels md) (evalList (evalN P n).expr env es) (fun m => evalList (gevalN (lowerProg md P) m).expr genv (lowerL md es))
  | [], _ => .pure .nil
  | _ :: _, hwf =>
    have hwf := Bool.and_eq_true_iff.mp hwf
    .bind (ih.expr' hwf.1 he) fun _ _ hr => .bind (sim_list' ih he hwf.2) fun _ _ hrs => .pure (.cons hr hrs)

theorem sim_list (ih : SimAt md P n) : ∀ {es : List Expr} {env : Env} {t : Trace} {vs : List SVal},
    evalList (evalN P n).expr env es = some (t, vs) → wfL md es = true → ∀ {genv : GEnv}, ERel md env genv →
      ∃ m gvs, evalList (gevalN (lowerProg md P) m).expr genv (lowerL md es) = some (t, gvs) ∧ VRels md vs gvs :=
  fun h hwf _ he => (sim_list' ih he hwf).exists_fuel h

/-- From one given argument to the list of them.  `srcClass` / `tgtClass` is the class of given arguments on the
source / Go side: pure and pure (tinyfo), inert and atom (fc); `hsrc`, `htgt0`, `htgt` say that the list predicates are
the conjunctions of these, and hold by `rfl` for both pairs. -/
theorem sim_atoms_of (k : Nat) (srcClassL : List Expr → Bool) (tgtClassL : List GExpr → Bool)
    {srcClass : Expr → Bool} {tgtClass : GExpr → Bool}
    (hsrc : ∀ e es, srcClassL (e :: es) = (srcClass e && srcClassL es))
    (htgt0 : tgtClassL [] = true)
    (htgt : ∀ g gs, tgtClassL (g :: gs) = (tgtClass g && tgtClassL gs))
    (h1 : ∀ {e : Expr} {env : Env} {t : Trace} {v : SVal},
      (evalN P k).expr env e = some (t, v) → srcClass e = true → wfE md e = true → ∀ {genv : GEnv}, ERel md env genv →
        t = [] ∧ ∃ gv, gpureEvalN k genv (lowerE md e) = some gv ∧ VRel md v gv ∧ tgtClass (lowerE md e) = true) :
    ∀ {es : List Expr} {env : Env} {t : Trace} {vs : List SVal},
      evalList (evalN P k).expr env es = some (t, vs) → srcClassL es = true → wfL md es = true → ∀ {genv : GEnv}, ERel md env genv →
        t = [] ∧ ∃ gvs, optList (gpureEvalN k genv) (lowerL md es) = some gvs ∧ VRels md vs gvs ∧
          tgtClassL (lowerL md es) = true := by
  intro es
  induction es with
  | nil =>
    intro env t vs h _ _ genv _
    cases h
    exact ⟨rfl, [], rfl, .nil, htgt0⟩
  | cons e es ihl =>
    intro env t vs h hp hw genv he
    have hp := Bool.and_eq_true_iff.mp (hsrc e es ▸ hp)
    have hw := Bool.and_eq_true_iff.mp hw
    obtain ⟨t1, v, t2, vs', he1, he2, rfl, rfl⟩ := evalList_cons_eq_some.mp h
    obtain ⟨rfl, gv, hg1, hr1, hp1⟩ := h1 he1 hp.1 hw.1 he
    obtain ⟨rfl, gvs, hg2, hr2, hp2⟩ := ihl he2 hp.2 hw.2 he
    rw [lowerL, htgt]
    exact ⟨rfl, gv :: gvs, optList_cons_eq_some.mpr ⟨gv, gvs, hg1, hg2, rfl⟩, .cons hr1 hr2,
      Bool.and_eq_true_iff.mpr ⟨hp1, hp2⟩⟩

/-- a pure expression evaluates without output, and its lowering evaluates (as a pure Go-core
expression, within the same depth) to a related value in any related environment -/
theorem sim_pure (rs : List String) : ∀ (n : Nat) {e : Expr} {env : Env} {t : Trace} {v : SVal},
    (evalN P n).expr env e = some (t, v) → isPureFor rs e = true → wfE md e = true → ∀ {genv : GEnv}, ERel md env genv →
      t = [] ∧ ∃ gv, gpureEvalN n genv (lowerE md e) = some gv ∧ VRel md v gv ∧ isGPureFor rs (lowerE md e) = true := by
  intro n
  induction n with
  | zero => intro e env t v h; cases h
  | succ k ih =>
    intro e env t v h hp hw genv he
    cases e with
    | lit l =>
      cases h
      exact ⟨rfl, .fo (.lit l), rfl, .fo _, rfl⟩
    | var x =>
      obtain ⟨rfl, hl⟩ := ofOpt_eq_some.mp h
      have hnr : isReserved x = false := by simpa [wfE] using hw
      obtain ⟨gv, hgl, hrv⟩ := he.lookup hnr hl
      refine ⟨rfl, gv, hgl, hrv, ?_⟩
      simp only [lowerE, isGPureFor, isRName_of_not_reserved hnr, Bool.not_false, Bool.and_true]
      simpa [isPureFor] using hp
    | prim p args =>
      have hp := Bool.and_eq_true_iff.mp hp
      obtain ⟨t1, vs, t2, h1, h2, rfl⟩ := Res.bind_eq_some.mp h
      obtain ⟨rfl, gvs, hg, hr, hpl⟩ := sim_atoms_of k (isPureForL rs) (isGPureForL rs) (fun _ _ => rfl) rfl (fun _ _ => rfl) ih h1 hp.2 hw he
      split at h2
      · rename_i fos hfos
        obtain ⟨v', h3, rfl⟩ := Res.bind_pure_eq_some.mp h2
        obtain rfl := primFO_silent hp.1 h3
        refine ⟨rfl, .fo v', ?_, .fo _, ?_⟩
        · simp [lowerE, gpureEvalN, hg, ← hr.toFOs, hfos, h3]
        · simp [lowerE, isGPureFor, hp.1, hpl]
      · cases h2
    | _ => cases hp

theorem sim_match' (ih : SimAt md P n) {env : Env} {t : Expr} {arms : List Arm} (hwt : wfE md t = true) (hwa : wfArms md arms = true)
    {genv : GEnv} (he : ERel md env genv) :
    Res.sim (VRel md) (evalMatch (evalN P n) env t arms)
      (fun m => gevalSwitch (gevalN (lowerProg md P) m) genv (lowerE md t) (lowerArms md arms)) := by
  refine .bind (ih.expr' hwt he) fun vt gvt hr => ?_
  split
  · cases hr
    split
    · rename_i bind b hpick
      obtain ⟨hpc, hwb⟩ := pickArm_lower hpick hwa
      split
      · rename_i env' hbind
        obtain ⟨genv', hgb, he'⟩ := bindArm_rel he hbind
        simp only [hpc, hgb]
        exact ih.body' hwb he'
      · exact .stuck
    · exact .stuck
  · exact .stuck

theorem sim_match (ih : SimAt md P n) {env : Env} {t : Expr} {arms : List Arm} {tr : Trace} {v : SVal}
    (h : evalMatch (evalN P n) env t arms = some (tr, v)) (hwt : wfE md t = true) (hwa : wfArms md arms = true)
    {genv : GEnv} (he : ERel md env genv) :
    ∃ m gv, gevalSwitch (gevalN (lowerProg md P) m) genv (lowerE md t) (lowerArms md arms) = some (tr, gv) ∧ VRel md v gv :=
  (sim_match' ih hwt hwa he).exists_fuel h

theorem sim_matchS' (ih : SimAt md P n) {env : Env} {t : Expr} {arms : List SArm} (hwt : wfE md t = true) (hwa : wfSArms md arms = true)
    {genv : GEnv} (he : ERel md env genv) :
    Res.sim (VRel md) (evalMatchS (evalN P n) env t arms)
      (fun m => gevalSwitchS (gevalN (lowerProg md P) m) genv (lowerE md t) (lowerSArms md arms)) := by
  refine .bind (ih.expr' hwt he) fun vt gvt hr => ?_
  split
  · cases hr
    split
    · rename_i b hpick
      obtain ⟨hpc, hwb⟩ := pickSArm_lower hpick hwa
      simp only [hpc]
      exact ih.body' hwb he
    · exact .stuck
  · exact .stuck

theorem sim_matchS (ih : SimAt md P n) {env : Env} {t : Expr} {arms : List SArm} {tr : Trace} {v : SVal}
    (h : evalMatchS (evalN P n) env t arms = some (tr, v)) (hwt : wfE md t = true) (hwa : wfSArms md arms = true)
    {genv : GEnv} (he : ERel md env genv) :
    ∃ m gv, gevalSwitchS (gevalN (lowerProg md P) m) genv (lowerE md t) (lowerSArms md arms) = some (tr, gv) ∧ VRel md v gv :=
  (sim_matchS' ih hwt hwa he).exists_fuel h

theorem sim_stmts' (ih : SimAt md P n) : ∀ {ss : List Stmt} {env : Env} {genv : GEnv}, wfSs md ss = true → ERel md env genv →
    Res.sim (ERel md) (runStmts (evalN P n) env ss) (fun m => grunStmts (gevalN (lowerProg md P) m) genv (lowerSs md ss))
  | [], _, _, _, he => .pure he
  | s :: ss, env, genv, hwf, he => by
    have hwf := Bool.and_eq_true_iff.mp hwf
    cases s with
    | let1 x e => exact .bind (ih.expr' hwf.1 he) fun _ _ hr => sim_stmts' ih hwf.2 (.cons hr he)
    | let2 x y e =>
      refine .bind (ih.expr' hwf.1 he) fun v gv hr => ?_
      split
      · cases hr
        exact sim_stmts' ih hwf.2 (.cons (.fo _) (.cons (.fo _) he))
      · exact .stuck
    | exec e => exact .bind (ih.expr' hwf.1 he) fun _ _ _ => sim_stmts' ih hwf.2 he
    | ifonly c b =>
      -- not a congruence: the source branches between two statements, the target runs ONE expression `frt.IfOnly(c, thunk)`
      have hw := Bool.and_eq_true_iff.mp hwf.1
      intro tr env' h
      obtain ⟨t1, vc, t2, h1, h2, rfl⟩ := Res.bind_eq_some.mp h
      obtain ⟨m1, gvc, hg1, hr1⟩ := ih.expr h1 hw.1 he
      split at h2
      · cases hr1
        obtain ⟨t3, vb, t4, h3, h4, rfl⟩ := Res.bind_eq_some.mp h2
        obtain ⟨m2, gvb, hg2, _⟩ := ih.body h3 hw.2 he
        obtain ⟨genv', hg3, he'⟩ := sim_stmts' ih hwf.2 he _ _ h4
        rw [← List.append_assoc]
        exact ⟨genv', .bind (gev_expr (g_ifOnly_true hg1 hg2)) hg3, he'⟩
      · cases hr1
        obtain ⟨genv', hg3, he'⟩ := sim_stmts' ih hwf.2 he _ _ h2
        exact ⟨genv', .bind (gev_expr (g_ifOnly_false hg1)) hg3, he'⟩
      · cases h2

theorem sim_stmts (ih : SimAt md P n) : ∀ {ss : List Stmt} {env : Env} {t : Trace} {env' : Env},
    runStmts (evalN P n) env ss = some (t, env') → wfSs md ss = true → ∀ {genv : GEnv}, ERel md env genv →
      ∃ m genv', grunStmts (gevalN (lowerProg md P) m) genv (lowerSs md ss) = some (t, genv') ∧ ERel md env' genv' :=
  fun h hwf _ he => (sim_stmts' ih hwf he).exists_fuel h

theorem sim_mapApp' (ih : SimAt md P n) {f : SVal} {gf : GVal} (hf : VRel md f gf) : ∀ {xs : List FO},
    Res.sim (VRels md) (mapApp (evalN P n).app SVal.fo f xs) (fun m => mapApp (gevalN (lowerProg md P) m).app GVal.fo gf xs)
  | [] => .pure .nil
  | x :: _ => .bind (ih.app' hf (.cons (.fo x) .nil)) fun _ _ hr => .bind (sim_mapApp' ih hf) fun _ _ hrs => .pure (.cons hr hrs)

theorem sim_mapApp (ih : SimAt md P n) {f : SVal} {gf : GVal} (hf : VRel md f gf) : ∀ {xs : List FO} {t : Trace} {ys : List SVal},
    mapApp (evalN P n).app SVal.fo f xs = some (t, ys) →
      ∃ m gys, mapApp (gevalN (lowerProg md P) m).app GVal.fo gf xs = some (t, gys) ∧ VRels md ys gys :=
  (sim_mapApp' ih hf).exists_fuel

theorem sim_filterApp' (ih : SimAt md P n) {f : SVal} {gf : GVal} (hf : VRel md f gf) : ∀ {xs : List FO},
    Res.sim Eq (filterApp (evalN P n).app SVal.fo SVal.toFO f xs)
      (fun m => filterApp (gevalN (lowerProg md P) m).app GVal.fo GVal.toFO gf xs)
  | [] => .pure rfl
  | x :: xs => by
    refine .bind (ih.app' hf (.cons (.fo x) .nil)) fun y gy hr => ?_
    rw [hr.toFO]
    split
    · exact .bind (sim_filterApp' ih hf) fun _ _ hys => .pure (hys ▸ rfl)
    · exact .stuck

theorem sim_foldApp' (ih : SimAt md P n) {f : SVal} {gf : GVal} (hf : VRel md f gf) : ∀ {xs : List FO} {acc : SVal} {gacc : GVal},
    VRel md acc gacc →
    Res.sim (VRel md) (foldApp (evalN P n).app SVal.fo f acc xs) (fun m => foldApp (gevalN (lowerProg md P) m).app GVal.fo gf gacc xs)
  | [], _, _, ha => .pure ha
  | x :: _, _, _, ha => .bind (ih.app' hf (.cons ha (.cons (.fo x) .nil))) fun _ _ hr => sim_foldApp' ih hf hr

end Folang.Sem
