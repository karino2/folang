import Folang.Lemmas.SimRules
/-
Auxiliary facts for the simulation proof: evalList and optList, environments of closures for partial
applications, the atom evaluator `gpureEvalN` against `gevalN`, arm selection under lowering, function
lookup under lowering.
-/
namespace Folang.Sem
variable {md : Bool}

theorem evalList_length {ε α β : Type} {f : ε → α → Res β} {env : ε} {es : List α} {t : Trace} {vs : List β}
    (h : evalList f env es = some (t, vs)) : vs.length = es.length := by
  induction es generalizing t vs with
  | nil =>
    cases h
    rfl
  | cons e es ih =>
    obtain ⟨_, _, _, vs', _, h2, _, rfl⟩ := evalList_cons_eq_some.mp h
    simp [ih h2]

theorem evalList_append {ε α β : Type} {f : ε → α → Res β} {env : ε} {as bs : List α} {t1 t2 : Trace} {v1 v2 : List β}
    (h1 : evalList f env as = some (t1, v1)) (h2 : evalList f env bs = some (t2, v2)) :
    evalList f env (as ++ bs) = some (t1 ++ t2, v1 ++ v2) := by
  induction as generalizing t1 v1 with
  | nil =>
    cases h1
    exact h2
  | cons a as ih =>
    obtain ⟨ta, v, tc, vs', ha, hc, rfl, rfl⟩ := evalList_cons_eq_some.mp h1
    rw [List.append_assoc]
    exact evalList_cons_eq_some.mpr ⟨ta, v, _, _, ha, ih hc, rfl, rfl⟩

theorem lookup_append_left_none {α : Type} {l1 l2 : List (String × α)} {x : String}
    (h : ∀ p ∈ l1, p.1 ≠ x) : lookup (l1 ++ l2) x = lookup l2 x := by
  induction l1 with
  | nil => rfl
  | cons p l1 ih =>
    have hp : (p.1 == x) = false := by simpa using h p List.mem_cons_self
    simp only [lookup, List.cons_append, List.find?_cons, hp] at ih ⊢
    exact ih (fun q hq => h q (List.mem_cons_of_mem _ hq))

theorem lookup_call_env_other {α : Type} {rs : List String} {vs : List α} {genv : List (String × α)} {x : String}
    (hx : rs.contains x = false) : lookup ((rs.zip vs).reverse ++ genv) x = lookup genv x := by
  apply lookup_append_left_none
  intro p hp heq
  have : p.1 ∈ rs := (List.of_mem_zip (List.mem_reverse.mp hp)).1
  rw [heq] at this
  simp [this] at hx

theorem evalList_rest_vars (GP : GProg) (m : Nat) :
    ∀ (rs : List String) (gargs : List GVal) (genv : GEnv), rs.Nodup → rs.length = gargs.length →
      evalList (gevalN GP (m + 1)).expr ((rs.zip gargs).reverse ++ genv) (rs.map GExpr.var) = some ([], gargs) := by
  intro rs
  induction rs with
  | nil => intro gargs genv _ hl; cases gargs with
    | nil => rfl
    | cons _ _ => simp at hl
  | cons r rs ih =>
    intro gargs genv hnd hl
    cases gargs with
    | nil => simp at hl
    | cons a as =>
      have hr : r ∉ rs := (List.nodup_cons.mp hnd).1
      simp only [List.zip_cons_cons, List.reverse_cons, List.append_assoc, List.singleton_append, List.map_cons, evalList]
      have h1 : (gevalN GP (m + 1)).expr ((rs.zip as).reverse ++ (r, a) :: genv) (.var r) = some ([], a) := by
        apply g_var
        rw [lookup_call_env_other (by simpa using hr), lookup_cons, if_pos (beq_self_eq_true r)]
      have h2 := ih as ((r, a) :: genv) (List.nodup_cons.mp hnd).2 (by simpa using hl)
      exact Res.bind_eq_some.mpr ⟨[], a, [], h1, Res.bind_eq_some.mpr ⟨[], as, [], h2, rfl, rfl⟩, rfl⟩

theorem primFO_silent {p : Prim} (hs : isSilentPrim p = true) {fos : List FO} {t : Trace} {v : FO}
    (h : primFO p fos = some (t, v)) : t = [] := by
  revert hs h
  -- one goal per alternative of `primFO`, each with its right-hand side in place: only the two printing
  -- ones have a trace other than `[]`.  (`split` on the overlapping 29-way match leaves every goal with
  -- the negations of all earlier patterns as hypotheses, which makes the obvious `simp_all` slow to check.)
  fun_cases primFO p fos <;>
    simp +contextual only [isSilentPrim, Option.map_eq_some_iff, Option.some.injEq, Prod.mk.injEq, reduceCtorEq,
      Bool.false_eq_true, false_imp_iff, forall_exists_index, and_imp, implies_true, eq_comm (a := ([] : Trace))]

theorem optList_cons_eq_some {α β : Type} {f : α → Option β} {a : α} {as : List α} {vs : List β} :
    optList f (a :: as) = some vs ↔ ∃ v vs', f a = some v ∧ optList f as = some vs' ∧ vs = v :: vs' := by
  rw [optList]
  cases f a <;> cases optList f as <;> simp [eq_comm]

theorem optList_congr {α β : Type} {f g : α → Option β} : ∀ {as : List α}, (∀ a ∈ as, f a = g a) → optList f as = optList g as
  | [], _ => rfl
  | a :: as, h => by
    rw [optList, optList, h a List.mem_cons_self, optList_congr (fun b hb => h b (List.mem_cons_of_mem _ hb))]

theorem evalList_of_optList {ε α β : Type} {f : ε → α → Res β} {g : α → Option β} {env : ε} :
    ∀ {as : List α} {vs : List β}, (∀ a ∈ as, ∀ v, g a = some v → f env a = some ([], v)) →
      optList g as = some vs → evalList f env as = some ([], vs)
  | [], _, _, h => by
    cases h
    rfl
  | a :: as, _, hf, h => by
    obtain ⟨v, vs', h1, h2, rfl⟩ := optList_cons_eq_some.mp h
    exact evalList_cons_eq_some.mpr ⟨[], v, [], vs', hf a List.mem_cons_self v h1,
      evalList_of_optList (fun b hb => hf b (List.mem_cons_of_mem _ hb)) h2, rfl, rfl⟩

/- `gpureEvalN` agrees with `gevalN` in the SAME environment (soundness), and it does not see bindings of
names a pure expression may not mention (weakening).  What the closure of a partial application needs, its
atoms evaluated in the environment of the CALL, is the two together. -/

theorem gpure_sound (GP : GProg) {rs : List String} {genv : GEnv} (k : Nat) {e : GExpr} {gv : GVal}
    (h : gpureEvalN k genv e = some gv) (ha : isGAtom rs e = true) : (gevalN GP k).expr genv e = some ([], gv) := by
  induction k generalizing e gv with
  | zero => cases h
  | succ k ih =>
    cases e with
    | lit l =>
      cases h
      rfl
    | var x => exact g_var k h
    | funcLit ps b =>
      cases h
      rfl
    | prim p args =>
      have hp : isSilentPrim p = true ∧ isGPureForL rs args = true := Bool.and_eq_true_iff.mp ha
      simp only [gpureEvalN] at h
      split at h
      · rename_i vs hvs
        split at h
        · rename_i fos hfos
          obtain ⟨⟨t, v⟩, hprim, rfl⟩ := Option.map_eq_some_iff.mp h
          obtain rfl := primFO_silent hp.1 hprim
          exact g_prim (evalList_of_optList
            (fun a ha v hv => ih hv (isGAtom_of_pure (isGPureForL_iff.mp hp.2 a ha))) hvs) hfos hprim
        · cases h
      · cases h
    | _ => cases h

theorem gpure_sound_list (GP : GProg) {rs : List String} {genv : GEnv} {k : Nat} {es : List GExpr} {gvs : List GVal}
    (h : optList (gpureEvalN k genv) es = some gvs) (ha : isGAtomL rs es = true) :
    evalList (gevalN GP k).expr genv es = some ([], gvs) :=
  evalList_of_optList (fun e he _ hv => gpure_sound GP k hv (isGAtomL_iff.mp ha e he)) h

theorem gpure_weaken {X genv : GEnv} {rs : List String}
    (hX : ∀ x, rs.contains x = false → isRName x = false → lookup (X ++ genv) x = lookup genv x)
    (k : Nat) (e : GExpr) (hp : isGPureFor rs e = true) : gpureEvalN k (X ++ genv) e = gpureEvalN k genv e := by
  induction k generalizing e with
  | zero => rfl
  | succ k ih =>
    cases e with
    | lit l => rfl
    | var x =>
      simp only [isGPureFor, Bool.and_eq_true, Bool.not_eq_true'] at hp
      exact hX x hp.1 hp.2
    | prim p args =>
      have hp := (Bool.and_eq_true_iff.mp hp).2
      simp only [gpureEvalN, optList_congr (fun a ha => ih a (isGPureForL_iff.mp hp a ha))]
    | _ => cases hp

/-- the given (pure) arguments of a partial application evaluate, inside the closure, to the values
they had when the closure was built, without output -/
theorem geval_pures (GP : GProg) (rs : List String) (gargs : List GVal) (genv : GEnv) (k : Nat) :
    ∀ (es : List GExpr) (gvs : List GVal), optList (gpureEvalN k genv) es = some gvs → isGPureForL rs es = true →
      evalList (gevalN GP k).expr ((rs.zip gargs).reverse ++ genv) es = some ([], gvs) := by
  intro es gvs h hp
  refine gpure_sound_list GP ?_ (isGAtomL_of_pure hp)
  rw [← h]
  exact optList_congr (fun e he => gpure_weaken (fun _ hx _ => lookup_call_env_other hx) k e (isGPureForL_iff.mp hp e he))

theorem pickArm_lower {arms : List Arm} {c : String} {bind : Option String} {b : Body}
    (h : pickArm arms c = some (bind, b)) (hwf : wfArms md arms = true) :
    pickCase (lowerArms md arms) c = some (bind, lowerB md b) ∧ wfB md b = true := by
  induction arms with
  | nil => simp [pickArm] at h
  | cons a arms ih =>
    obtain ⟨c', bind', b'⟩ := a
    simp only [wfArms, Bool.and_eq_true] at hwf
    simp only [pickArm] at h
    simp only [lowerArms, pickCase]
    split at h
    · rename_i hc
      simp only [Option.some.injEq, Prod.mk.injEq] at h
      simp only [hc, if_true]
      exact ⟨by rw [← h.1, ← h.2], h.2 ▸ hwf.1⟩
    · rename_i hc
      simp only [hc]
      exact ih h hwf.2

theorem pickSArm_lower {arms : List SArm} {s : String} {b : Body}
    (h : pickSArm arms s = some b) (hwf : wfSArms md arms = true) :
    pickSCase (lowerSArms md arms) s = some (lowerB md b) ∧ wfB md b = true := by
  induction arms with
  | nil => simp [pickSArm] at h
  | cons a arms ih =>
    obtain ⟨p, b'⟩ := a
    simp only [wfSArms, Bool.and_eq_true] at hwf
    cases p with
    | none =>
      simp only [pickSArm, Option.some.injEq] at h
      simp only [lowerSArms, pickSCase]
      exact ⟨by rw [h], h ▸ hwf.1⟩
    | some p =>
      simp only [pickSArm] at h
      simp only [lowerSArms, pickSCase]
      split at h
      · rename_i hp
        simp only [Option.some.injEq] at h
        simp only [hp, if_true]
        exact ⟨by rw [h], h ▸ hwf.1⟩
      · rename_i hp
        simp only [hp]
        exact ih h hwf.2

theorem bindArm_rel {env : Env} {genv : GEnv} (he : ERel md env genv) {bind : Option String} {payload : Option FO} {env' : Env}
    (h : bindArm SVal.fo env bind payload = some env') :
    ∃ genv', bindArm GVal.fo genv bind payload = some genv' ∧ ERel md env' genv' := by
  cases bind with
  | none => simp [bindArm] at h; subst h; exact ⟨genv, rfl, he⟩
  | some x =>
    cases payload with
    | none => simp [bindArm] at h
    | some v => simp [bindArm] at h; subst h; exact ⟨(x, .fo v) :: genv, rfl, .cons (.fo v) he⟩

theorem find_lower {P : Prog} {f : String} {d : FunDef} (h : P.find f = some d) :
    (lowerProg md P).find f = some (lowerFun md d) :=
  (List.find?_map ..).trans (congrArg (Option.map (lowerFun md)) h)

end Folang.Sem
