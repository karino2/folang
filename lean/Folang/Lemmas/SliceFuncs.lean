import Folang.Lemmas.GoSlice
/-
What the functions of pkg/slice share: the invariant `BInv` of a loop that builds its result by
`append`, the post-condition `Post` of every slice-returning function, and the rules that take a
`range` loop or a copy loop from one to the other.
-/
namespace Folang.GoSlice
variable {α : Type}

/-- result-building loops: invariant "everything below `h.length` is untouched, the accumulator
is fresh, valid, and holds `acc`" -/
def BInv (h : Heap α) (acc : List α) (st : St α) : Prop :=
  AgreeBelow h.length h st.2 ∧ Fresh h.length st.1 ∧ Valid st.2 st.1 ∧ read st.2 st.1 = acc

/-- the call returns normally, with a slice `r` and a heap `h'` that is `h` plus new arrays (`Ext`);
`r` is valid in `h'` and holds exactly `spec` -/
def Post (h : Heap α) (res : Except Panic (St α)) (spec : List α) : Prop :=
  ∃ r h', res = .ok (r, h') ∧ Ext h h' ∧ Valid h' r ∧ read h' r = spec

theorem BInv.init (h : Heap α) : BInv h [] (.nil, h) :=
  ⟨AgreeBelow.refl _ _, trivial, trivial, rfl⟩

theorem BInv.append [Inhabited α] (g : Growth) {h : Heap α} {acc : List α} {st : St α} (xs : List α)
    (inv : BInv h acc st) : BInv h (acc ++ xs) (appendN g st.2 st.1 xs) := by
  obtain ⟨ag, fr, v, rd⟩ := inv
  have f := appendN_frame g h.length st.2 st.1 xs ag.1 fr
  have r := appendN_read g st.2 st.1 xs v
  exact ⟨ag.trans f.1, f.2, r.1, by rw [r.2, rd]⟩

/-- `res = append(res, x...)` for a slice `x` of the caller: the loop's heap agrees with `h` where
`x` lives, so what is appended is `read h x` -/
theorem BInv.append_read [Inhabited α] (g : Growth) {h : Heap α} {acc : List α} {st : St α}
    (inv : BInv h acc st) {x : Slice} (v : Valid h x) :
    BInv h (acc ++ read h x) (appendN g st.2 st.1 (read st.2 x)) :=
  read_ext inv.1 v ▸ inv.append g (read st.2 x)

theorem BInv.alloc [Inhabited α] (h : Heap α) (xs : List α) (cap : Nat) : BInv h xs (allocWith h xs cap) :=
  have sp := allocWith_spec h xs cap
  ⟨sp.1, sp.2.2.2.1, sp.2.1, sp.2.2.1⟩

theorem BInv.toPost {h : Heap α} {acc : List α} {st : St α} (inv : BInv h acc st) :
    Post h (.ok st) acc := ⟨st.1, st.2, rfl, inv.1, inv.2.2.1, inv.2.2.2⟩

theorem Post.congr_spec {h : Heap α} {res : Except Panic (St α)} {a b : List α} (p : Post h res a) (e : a = b) :
    Post h res b := e ▸ p

theorem build_range {h : Heap α} {s : Slice} (v : Valid h s) (G : List α → List α) (hG : G [] = [])
    (body : Nat → α → St α → Except Panic (St α))
    (hbody : ∀ w e st, BInv h (G w) st → (read h s)[w.length]? = some e →
      ∃ st', body w.length e st = .ok st' ∧ BInv h (G (w ++ [e])) st') :
    Post h (rangeLoop (·.2) s body (.nil, h)) (G (read h s)) := by
  obtain ⟨st', inv, e⟩ := rangeLoop_spec (·.2) s body (read h s) (read_length v) (fun w st => BInv h (G w) st)
    (fun _ _ inv => read_ext inv.1 v) hbody (.nil, h) (by rw [hG]; exact BInv.init h)
  exact e ▸ inv.toPost

variable [Inhabited α] (g : Growth)

theorem Concat_inv (h : Heap α) (ss : List Slice) (vs : ∀ s ∈ ss, Valid h s) :
    ∀ (acc : List α) (st : St α), BInv h acc st →
      BInv h (acc ++ (ss.map (read h)).flatten)
        (ss.foldl (fun st s => appendN g st.2 st.1 (read st.2 s)) st) := by
  induction ss with
  | nil => exact fun acc st inv => (List.append_nil acc).symm ▸ inv
  | cons s rest ih =>
    intro acc st inv
    rw [List.foldl_cons, List.map_cons, List.flatten_cons, ← List.append_assoc]
    exact ih (fun x hx => vs x (List.mem_cons_of_mem _ hx)) _ _ (inv.append_read g (vs s List.mem_cons_self))

/-- `Take` and `Skip` are the same loop `for i := a; i < b; i++ { res = append(res, s[i]) }` -/
theorem copy_window (h : Heap α) (s : Slice) (v : Valid h s) (i fuel : Nat) :
    ∃ st', BInv h (((read h s).drop i).take fuel) st' ∧
      idxLoop (·.2) s (fun _ e st => .ok (appendN g st.2 st.1 [e])) fuel i (.nil, h) =
        if fuel ≤ s.len - i then .ok st' else .error .index := by
  have := idxLoop_spec (·.2) s (fun _ e st => .ok (appendN g st.2 st.1 [e])) (read h s) i
    (fun w st => BInv h w st) (fun _ _ inv => read_ext inv.1 v)
    (fun _ e _ inv _ => ⟨_, rfl, inv.append g [e]⟩) fuel (.nil, h) (BInv.init h)
  rwa [List.length_drop, read_length v] at this

/-- `Take n` with `n > len` is an index-out-of-range panic (not a shortened result) -/
theorem Take_panics (h : Heap α) (num : Int) (s : Slice) (v : Valid h s) (hn : s.len < num.toNat) :
    Take g h num s = .error .index := by
  obtain ⟨st', _, e⟩ := copy_window g h s v 0 num.toNat
  exact e.trans (if_neg (Nat.not_le.mpr hn))

/-- `Skip n` with `n < 0` is an index panic (`s[n]` is read before anything else) -/
theorem Skip_neg (h : Heap α) (count : Int) (s : Slice) (hc : count < 0) :
    Skip g h count s = .error .index :=
  if_pos hc

theorem Zip_panics (mk : α → α → α) (h : Heap α) (s1 s2 : Slice) (hlen : s1.len ≠ s2.len) :
    Zip g mk h s1 s2 = .error (.msg "zip with different length slices.") :=
  if_pos hlen

omit [Inhabited α] in
theorem Tail_panics (s : Slice) (he : s.len = 0) : Tail s = .error (.msg "call Tail to empty list") :=
  if_pos he

omit [Inhabited α] in
theorem PopLast_panics (s : Slice) (he : s.len = 0) : PopLast s = .error .index :=
  if_pos he

omit [Inhabited α] in
/-- overwriting all cells of a fresh slice (what `slices.SortFunc` does to the copy); writing nothing
touches nothing, so an empty slice need not be fresh -/
theorem overwrite_post {h h1 : Heap α} {a o l c : Nat} (ys : List α) (hlen : ys.length = l)
    (fr : ys ≠ [] → h.length ≤ a) (ag : Ext h h1) (v : Valid h1 (.mk a o l c)) :
    Post h (.ok (.mk a o l c, writeCells h1 a o ys)) ys := by
  have w := writeCells_read (o := o) 0 ys v.1 (by have := v.2.1; omega) v.2.2
  rw [Nat.zero_add, hlen] at w
  exact ⟨_, _, rfl, AgreeBelow.trans ag (writeCells_agree h.length h1 a o ys fr), w.1, w.2⟩

/-- what the model stores back: the sorter's output forced to the copy's length
(equal to the sorter's output whenever the sorter preserves length) -/
def padded (ys xs : List α) : List α := ys.take xs.length ++ xs.drop (ys.take xs.length).length

omit [Inhabited α] in
theorem padded_length (ys xs : List α) : (padded ys xs).length = xs.length := by
  rw [padded, List.length_append, List.length_drop]
  exact Nat.add_sub_cancel' (List.length_take_le _ _)

omit [Inhabited α] in
theorem padded_eq (ys xs : List α) (h : ys.length = xs.length) : padded ys xs = ys := by
  have ht : ys.take xs.length = ys := List.take_of_length_le (Nat.le_of_eq h)
  rw [padded, ht, h, List.drop_length, List.append_nil]

omit [Inhabited α] in
theorem scanLoop_eq {ρ : Type} (h : Heap α) (s : Slice) (f : α → Option ρ) :
    ∀ (r : List α) (i : Nat), (read h s).drop i = r →
      scanLoop h s f r.length i = .ok (r.findSome? f)
  | [], _, _ => rfl
  | x :: r, i, e => by
    rw [List.length_cons, scanLoop, getAt, (drop_eq_cons e).1, List.findSome?_cons]
    dsimp only
    cases f x with
    | some y => rfl
    | none => exact scanLoop_eq h s f r (i + 1) (drop_eq_cons e).2

omit [Inhabited α] in
theorem foldLoop_eq {σ : Type} (h : Heap α) (s : Slice) (folder : σ → α → σ) :
    ∀ (r : List α) (i : Nat) (st : σ), (read h s).drop i = r →
      foldLoop h s folder r.length i st = .ok (r.foldl folder st)
  | [], _, _, _ => rfl
  | x :: r, i, st, e => by
    rw [List.length_cons, foldLoop, getAt, (drop_eq_cons e).1]
    exact foldLoop_eq h s folder r (i + 1) _ (drop_eq_cons e).2

omit [Inhabited α] in
/-- an early-return scan `if p e { return r e }` finds the first `p`-element -/
theorem findSome?_ite {ρ : Type} (p : α → Bool) (r : α → ρ) (l : List α) :
    l.findSome? (fun e => if p e then some (r e) else none) = (l.find? p).map r := by
  induction l with
  | nil => rfl
  | cons x xs ih =>
    rw [List.findSome?_cons, List.find?_cons]
    cases p x <;> simp [ih]

omit [Inhabited α] in
theorem scan_spec {ρ : Type} (h : Heap α) (s : Slice) (v : Valid h s) (p : α → Bool) (r : α → ρ) :
    scanLoop h s (fun e => if p e then some (r e) else none) s.len 0 = .ok (((read h s).find? p).map r) := by
  rw [← read_length v, scanLoop_eq h s _ (read h s) 0 rfl, findSome?_ite]

end Folang.GoSlice
