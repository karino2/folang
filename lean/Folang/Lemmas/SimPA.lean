import Folang.Lemmas.SimCore
/-
Partial application under `bind` (fc after the fix of D9): the given arguments that are not inert are
evaluated first, in order, into `_p…` bindings; the closure then mentions only atoms.
-/
namespace Folang.Sem
variable {P : Prog} {n : Nat}

/-- the extra bindings made so far: all named `_p j` with j from `i` on -/
def PExtras (i : Nat) (X : GEnv) : Prop := ∀ q ∈ X, ∃ j, i ≤ j ∧ q.1 = pName j

theorem PExtras.mono {i j : Nat} {X : GEnv} (hij : i ≤ j) (h : PExtras j X) : PExtras i X := by
  intro q hq
  obtain ⟨k, hk, hqk⟩ := h q hq
  exact ⟨k, Nat.le_trans hij hk, hqk⟩

theorem lookup_pName_skip {X genv : GEnv} {i : Nat} (h : PExtras (i + 1) X) :
    lookup (X ++ genv) (pName i) = lookup genv (pName i) := by
  apply lookup_append_left_none
  intro q hq heq
  obtain ⟨j, hj, hqj⟩ := h q hq
  rw [hqj] at heq
  have := pName_inj heq
  omega

theorem ERel.pextras {md : Bool} {env : Env} {genv : GEnv} (he : ERel md env genv) (X : GEnv) (i : Nat) (hX : PExtras i X) :
    ERel md env (X ++ genv) :=
  he.append_reserved X (fun q hq => by
    obtain ⟨j, _, hq⟩ := hX q hq
    rw [hq]
    exact isReserved_pName j)

theorem paArgs_cons_inert {i : Nat} {a : Expr} {as : List Expr} {g : GExpr} {gs : List GExpr} (h : isInert a = true) :
    paArgs i (a :: as) (g :: gs) = (g :: (paArgs (i + 1) as gs).1, (paArgs (i + 1) as gs).2) := by
  simp only [paArgs, h, if_true]

theorem paArgs_cons_bound {i : Nat} {a : Expr} {as : List Expr} {g : GExpr} {gs : List GExpr} (h : isInert a = false) :
    paArgs i (a :: as) (g :: gs) =
      (.var (pName i) :: (paArgs (i + 1) as gs).1, .define (pName i) g :: (paArgs (i + 1) as gs).2) := by
  simp only [paArgs, h, Bool.false_eq_true, if_false]

theorem isInertL_cons {a : Expr} {as : List Expr} : isInertL (a :: as) = (isInert a && isInertL as) := by
  rw [isInertL]

theorem paArgs_inert : ∀ (i : Nat) (args : List Expr) (gs : List GExpr), isInertL args = true → args.length = gs.length →
    paArgs i args gs = (gs, [])
  | _, [], [], _, _ => rfl
  | _, [], _ :: _, _, h => by simp at h
  | _, _ :: _, [], _, h => by simp at h
  | i, a :: as, g :: gs, hin, hl => by
    rw [isInertL_cons, Bool.and_eq_true] at hin
    rw [paArgs_cons_inert hin.1, paArgs_inert (i + 1) as gs hin.2 (by simpa using hl)]

theorem lowerL_length (md : Bool) : ∀ (es : List Expr), (lowerL md es).length = es.length
  | [] => rfl
  | e :: es => by simp [lowerL, lowerL_length md es]

theorem isInert_prim {p : Prim} {args : List Expr} (h : isInert (.prim p args) = true) :
    (∃ f x, p = .fld f ∧ args = [.var x]) ∨ (∃ u c, p = .ctor u c ∧ args = []) := by
  unfold isInert at h
  split at h
  · rename_i heq; cases heq
  · rename_i heq; cases heq
  · rename_i heq; cases heq; exact Or.inl ⟨_, _, rfl, rfl⟩
  · rename_i heq; cases heq; exact Or.inr ⟨_, _, rfl, rfl⟩
  · rename_i heq; cases heq
  · rename_i heq; cases heq
  · cases h

theorem sim_inert : ∀ (n : Nat) {a : Expr} {env : Env} {t : Trace} {v : SVal},
    (evalN P n).expr env a = some (t, v) → isInert a = true → wfE true a = true →
    ∀ (m : Nat) {genv : GEnv}, ERel true env genv →
      t = [] ∧ ∃ gv, gpureEvalN n genv (lowerE true a) = some gv ∧ VRel true v gv ∧
        isGAtom (restNames m) (lowerE true a) = true := by
  intro n
  induction n with
  | zero => intro a env t v h; cases h
  | succ k ih =>
    intro a env t v h hin hw m genv he
    -- the first-order forms are pure
    have hpureCase : isPureFor (restNames m) a = true →
        t = [] ∧ ∃ gv, gpureEvalN (k + 1) genv (lowerE true a) = some gv ∧ VRel true v gv ∧
          isGAtom (restNames m) (lowerE true a) = true := by
      intro hp
      obtain ⟨ht, gv, hg, hr, hp'⟩ := sim_pure (restNames m) (k + 1) h hp hw he
      exact ⟨ht, gv, hg, hr, isGAtom_of_pure hp'⟩
    cases a with
    | lit l => exact hpureCase rfl
    | var x =>
      have hnr : isReserved x = false := by simpa [wfE] using hw
      have hc := restNames_not_contains (isRName_of_not_reserved hnr) m
      exact hpureCase (by simpa [isPureFor] using hc)
    | prim p args =>
      rcases isInert_prim hin with ⟨f, x, rfl, rfl⟩ | ⟨u, c, rfl, rfl⟩
      · have hnr : isReserved x = false := by simpa [wfE, wfL] using hw
        have hc := restNames_not_contains (isRName_of_not_reserved hnr) m
        exact hpureCase (by simpa [isPureFor, isPureForL, isSilentPrim] using hc)
      · exact hpureCase rfl
    | lam ps b =>
      cases h
      exact ⟨rfl, .clo ps (lowerB true b) genv, rfl, .clo hw he, rfl⟩
    | call f arity args =>
      have hin' : args.length < arity ∧ isInertL args = true := by
        have := hin
        rw [isInert] at this
        simpa using this
      have hwl : wfL true args = true := (wfE_call hw).1
      obtain ⟨t1, vs, t2, h1, h2, rfl⟩ := Res.bind_eq_some.mp h
      have hlen : vs.length = args.length := evalList_length h1
      have hlt : vs.length < arity := by omega
      simp only [hlt, if_true] at h2
      obtain ⟨rfl, rfl⟩ := Res.pure_eq_some.mp h2
      obtain ⟨rfl, gvs, hga, hrv, hall⟩ := sim_atoms_of k isInertL (isGAtomL _) (fun _ _ => rfl) rfl (fun _ _ => rfl)
        (fun h hin hw => ih h hin hw (arity - vs.length)) h1 hin'.2 hwl he
      have hl : lowerE true (.call f arity args) = .funcLit (restNames (arity - args.length))
          (.mk [] (.ret (.callFn f (lowerL true args ++ (restNames (arity - args.length)).map GExpr.var)))) := by
        simp [lowerE, hin'.1, paArgs_inert 0 args (lowerL true args) hin'.2 (lowerL_length true args).symm]
      rw [hl, ← hlen]
      exact ⟨rfl, _, rfl, VRel.pap hlt hga hrv hall, rfl⟩
    | _ => cases hin

/-- the given arguments of a partial application, from position `i`: running the bindings produces the
output of evaluating the arguments in order, and afterwards the atoms the closure mentions evaluate,
without output, to values related to the arguments' values -/
theorem sim_paArgs (ih : SimAt true P n) (mr : Nat) : ∀ (args : List Expr) (i : Nat) {env : Env} {t : Trace} {vs : List SVal},
    evalList (evalN P n).expr env args = some (t, vs) → wfL true args = true →
    ∀ {genv : GEnv}, ERel true env genv →
      ∃ m X gvs, PExtras i X ∧
        grunStmts (gevalN (lowerProg true P) m) genv (paArgs i args (lowerL true args)).2 = some (t, X ++ genv) ∧
        optList (gpureEvalN n (X ++ genv)) (paArgs i args (lowerL true args)).1 = some gvs ∧ VRels true vs gvs ∧
        isGAtomL (restNames mr) (paArgs i args (lowerL true args)).1 = true := by
  intro args
  induction args with
  | nil =>
    intro i env t vs h _ genv _
    cases h
    exact ⟨0, [], [], fun _ hq => (nomatch hq), rfl, rfl, .nil, rfl⟩
  | cons a as iha =>
    intro i env t vs h hw genv he
    have hw := Bool.and_eq_true_iff.mp hw
    obtain ⟨t1, v, t2, vs', h1, h2, rfl, rfl⟩ := evalList_cons_eq_some.mp h
    rw [lowerL]
    cases hin : isInert a with
    | true =>
      obtain ⟨m, X, gvs, hX, hrun, hat, hrel, hgp⟩ := iha (i + 1) h2 hw.2 he
      obtain ⟨rfl, gv, hg1, hr1, hp1⟩ := sim_inert n h1 hin hw.1 mr (ERel.pextras he X (i + 1) hX)
      rw [paArgs_cons_inert hin]
      refine ⟨m, X, gv :: gvs, PExtras.mono (Nat.le_succ i) hX, hrun, ?_, .cons hr1 hrel, ?_⟩
      · rw [optList, hg1, hat]
      · exact Bool.and_eq_true_iff.mpr ⟨hp1, hgp⟩
    | false =>
      obtain ⟨m1, gv, hg1, hr1⟩ := ih.expr h1 hw.1 he
      obtain ⟨m2, X, gvs, hX, hrun, hat, hrel, hgp⟩ := iha (i + 1) h2 hw.2 (.extra (y := pName i) (gv := gv) (isReserved_pName i) he)
      rw [paArgs_cons_bound hin]
      -- `gpureEvalN` looks up `_p i` only at a successor depth, and `h1` shows that `n` is one
      obtain ⟨k, rfl⟩ : ∃ k, n = k + 1 := by
        cases n with
        | zero => cases h1
        | succ k => exact ⟨k, rfl⟩
      have hlook : lookup (X ++ (pName i, gv) :: genv) (pName i) = some gv := by
        rw [lookup_pName_skip hX, lookup_cons, if_pos (beq_self_eq_true _)]
      have hstmts := g_define hg1 hrun
      rw [List.append_cons] at hstmts
      refine ⟨_, X ++ [(pName i, gv)], gv :: gvs, fun q hq => ?_, hstmts, ?_, .cons hr1 hrel, ?_⟩
      · rcases List.mem_append.mp hq with hq | hq
        · exact PExtras.mono (Nat.le_succ i) hX q hq
        · cases List.mem_singleton.mp hq
          exact ⟨i, Nat.le_refl _, rfl⟩
      · rw [List.append_assoc, optList, gpureEvalN, List.singleton_append, hlook, hat]
      · simp only [isGAtomL, isGAtom, isGPureFor, pName_not_rest i mr, isRName_pName i, Bool.not_false, Bool.and_self,
          Bool.true_and]
        exact hgp

end Folang.Sem
