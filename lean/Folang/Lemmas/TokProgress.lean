import Folang.Model.Tokenizer
import Folang.Lemmas.Literal
/-
What the byte-level tokenizer model does, from the scanners up to the tokenizer state.  Every token
lies inside the buffer, is empty only at its end, and is SPACE exactly where the buffer begins like space
(`scanTokenAt_tok`); the SPACE scanner stops only where the rest does not begin like space, so `nextToken`
is two scans and needs no loop (`nextNonSpace_eq`); `newTkz` and `tkzNext` are maps over it.
-/
namespace Folang.Tokenizer
open Folang.Literal

theorem scanStr_rest_lt : ∀ {r v r' : Bytes}, scanStr r = .ok (v, r') → r'.length < r.length
  | [], _, _, h => by cases h
  | c :: t, v, r', h => by
    by_cases hd : c = DQ
    · rw [hd, scanStr_dq] at h
      cases h
      exact Nat.lt_succ_self _
    by_cases hb : c = BS
    · match t, h with
      | [], h =>
        rw [hb] at h
        cases h
      | c2 :: t', h =>
        rw [hb, scanStr_bs] at h
        obtain ⟨_, h0⟩ := pre_ok h
        exact Nat.lt_succ_of_lt (Nat.lt_succ_of_lt (scanStr_rest_lt h0))
    · rw [scanStr_lit c t hd hb] at h
      obtain ⟨_, h0⟩ := pre_ok h
      exact Nat.lt_succ_of_lt (scanStr_rest_lt h0)

theorem scanRaw_rest_lt : ∀ {r v r' : Bytes}, scanRaw r = .ok (v, r') → r'.length < r.length
  | [], _, _, h => by cases h
  | c :: t, v, r', h => by
    by_cases hc : c = BT
    · rw [hc, scanRaw_bt] at h
      cases h
      exact Nat.lt_succ_self _
    · rw [scanRaw_cons c t hc] at h
      obtain ⟨_, h0⟩ := pre_ok h
      exact Nat.lt_succ_of_lt (scanRaw_rest_lt h0)

theorem runOf_le (c : UInt8) (s : Bytes) : runOf c s ≤ s.length := by
  induction s with
  | nil => simp [runOf]
  | cons b rest ih => simp only [runOf]; split <;> simp <;> omega

theorem runOf_pos_iff (c b : UInt8) (rest : Bytes) : 0 < runOf c (b :: rest) ↔ b = c := by
  by_cases h : b = c <;> simp [runOf, h]

theorem toEOL_le (s : Bytes) : toEOL s ≤ s.length := by
  induction s with
  | nil => simp [toEOL]
  | cons b rest ih => simp only [toEOL]; split <;> simp <;> omega

theorem identLen_le (s : Bytes) : identLen s ≤ s.length := by
  induction s with
  | nil => simp [identLen]
  | cons b rest ih => simp only [identLen]; split <;> simp <;> omega

theorem findClose_bound : ∀ {s : Bytes} {k : Nat}, findClose s = some k → k + 2 ≤ s.length
  | [], _, h | [_], _, h => by cases h
  | a :: b :: rest, k, h => by
    simp only [findClose] at h
    split at h
    · cases h
      simp
    · obtain ⟨k', hk, rfl⟩ := Option.map_eq_some_iff.mp h
      exact Nat.succ_le_succ (findClose_bound hk)

theorem intScan_bound : ∀ {s : Bytes} {n v n' v' : Nat}, intScan s n v = some (n', v') → n ≤ n' ∧ n' ≤ n + s.length
  | [], _, _, _, _, h => by cases h
  | b :: rest, n, v, n', v', h => by
    simp only [intScan] at h
    split at h
    · have := intScan_bound h
      simp only [List.length_cons]
      omega
    · cases h
      simp

theorem ite_ind {α : Sort _} {P : α → Prop} {c : Prop} [Decidable c] {a b : α} (ha : P a) (hb : P b) :
    P (if c then a else b) := by
  split <;> assumption

theorem scanPunct_ind {P : Res → Prop} {b : UInt8} {rest : Bytes}
    (tok : ∀ k n, k ≠ "SPACE" → 0 < n → n ≤ rest.length + 1 → P (.tok { kind := k, len := n }))
    (panic : P .panic) : P (scanPunct b rest) := by
  have one : ∀ k, k ≠ "SPACE" → P (one k) := fun k hk => tok k 1 hk (by decide) (by omega)
  unfold scanPunct
  -- the counts follow the definition: twelve one-byte tokens, `|` `<` `>` (which look at the next byte), `+`,
  -- `&` (looks), `*`, `-` (looks); a wrong count leaves `exact` or `split` without its goal
  iterate 12
    apply ite_ind
    exact one _ (by simp)
  iterate 3
    apply ite_ind
    split <;> exact tok _ _ (by simp) (by decide) (by simp)
  apply ite_ind
  exact one _ (by simp)
  apply ite_ind
  split <;> exact tok _ _ (by simp) (by decide) (by simp)
  apply ite_ind
  exact one _ (by simp)
  apply ite_ind
  split <;> exact tok _ _ (by simp) (by decide) (by simp)
  exact panic

theorem scanPunct_tok {b : UInt8} {rest : Bytes} {t : Tok} (h : scanPunct b rest = .tok t) :
    t.kind ≠ "SPACE" ∧ t.beginOff = 0 ∧ 0 < t.len ∧ t.len ≤ rest.length + 1 := by
  revert h
  refine scanPunct_ind (P := fun r => r = .tok t → _) (fun k n hk h0 hn h => ?_) (fun h => by cases h)
  cases h
  exact ⟨hk, rfl, h0, hn⟩

theorem strTok_tok {kind : String} {off total : Nat} {r : Except Err (Bytes × Bytes)} {t : Tok}
    (h : strTok kind off total r = .tok t) :
    ∃ v r', r = .ok (v, r') ∧ t = { kind := kind, beginOff := off, len := total - r'.length, sval := v } := by
  unfold strTok at h
  split at h
  · cases h
    exact ⟨_, _, rfl, rfl⟩
  · cases h

theorem keywords_ne_space : ∀ kv ∈ keywords, kv.2 ≠ "SPACE" := by decide

theorem keyword_ne_space (name : String) :
    ((keywords.find? (·.1 == name)).map (·.2)).getD "IDENTIFIER" ≠ "SPACE" := by
  cases hf : keywords.find? (·.1 == name) with
  | none => simp
  | some kv => exact keywords_ne_space kv (List.mem_of_find?_eq_some hf)

/-- the ways a position can begin like space, as `scanTokenAt` tests them -/
theorem spaceLike_cons (b : UInt8) (rest : Bytes) :
    spaceLike (b :: rest) = true ↔ (b = SP ∨ b = TAB) ∨ (b = SL ∧ ∃ c r, rest = c :: r ∧ (c = ST ∨ c = SL)) := by
  cases rest <;> simp [spaceLike]

/-- the same, in the terms `spaceRound` is written in -/
theorem spaceLike_iff (s : Bytes) : spaceLike s = true ↔
    0 < runOf SP s ∨ 0 < runOf TAB s ∨ startsWith2 SL ST s = true ∨ startsWith2 SL SL s = true := by
  match s with
  | [] => simp [spaceLike, runOf, startsWith2]
  | [b] => simp [spaceLike, runOf_pos_iff, startsWith2]
  | b :: c :: r => simp [spaceLike, runOf_pos_iff, startsWith2, or_assoc, and_or_left]

theorem startsWith2_length {a b : UInt8} {s : Bytes} (h : startsWith2 a b s = true) : 2 ≤ s.length := by
  match s, h with
  | _ :: _ :: _, _ => exact Nat.le_add_left 2 _

theorem lineComment_spec (n : Nat) (s3 : Bytes) :
    ∃ n4, n4 ≤ s3.length ∧ lineComment n s3 = (n + n4, s3.drop n4) ∧ (startsWith2 SL SL s3 = true → 0 < n4) := by
  unfold lineComment
  by_cases h : startsWith2 SL SL s3 = true
  · refine ⟨toEOL s3, toEOL_le _, by simp [h], fun _ => ?_⟩
    match s3, h with
    | x :: y :: r, h =>
      simp only [startsWith2, Bool.and_eq_true, beq_iff_eq] at h
      simp [toEOL, h.1, SL, NL]
  · exact ⟨0, by omega, by simp [h], fun hh => absurd hh h⟩

theorem le_of_le_drop {s : Bytes} {m x : Nat} (hm : m ≤ s.length) (hx : x ≤ (s.drop m).length) :
    m + x ≤ s.length := by
  rw [List.length_drop] at hx
  omega

theorem spaceRound_spec {s : Bytes} {step : Nat} {s4 : Bytes} (h : spaceRound s = some (step, s4)) :
    s4 = s.drop step ∧ step ≤ s.length ∧ (spaceLike s = true → 0 < step) := by
  simp only [spaceRound] at h
  have h1 := runOf_le SP s
  generalize hn1 : runOf SP s = n1 at h h1
  have h2 := le_of_le_drop h1 (runOf_le TAB (s.drop n1))
  generalize hn2 : runOf TAB (s.drop n1) = n2 at h h2
  simp only [List.drop_drop] at h
  split at h
  · rename_i hblock
    split at h
    · cases h
    · rename_i k hk
      have h3 := le_of_le_drop (le_of_le_drop h2 (startsWith2_length hblock)) (findClose_bound hk)
      obtain ⟨n4, hn4, hlc, _⟩ := lineComment_spec (n1 + n2 + (k + 4)) (s.drop (n1 + n2 + (k + 4)))
      rw [hlc] at h
      cases h
      have h4 := le_of_le_drop (show n1 + n2 + (k + 4) ≤ s.length by omega) hn4
      exact ⟨by rw [List.drop_drop], h4, fun _ => by omega⟩
  · rename_i hblock
    obtain ⟨n4, hn4, hlc, hpos⟩ := lineComment_spec (n1 + n2) (s.drop (n1 + n2))
    rw [hlc] at h
    cases h
    refine ⟨by rw [List.drop_drop], le_of_le_drop h2 hn4, fun hl => Nat.pos_of_ne_zero fun h0 => ?_⟩
    -- a round of length 0 saw no blank, no tab, no block comment and no line comment
    obtain ⟨rfl, rfl, rfl⟩ : n1 = 0 ∧ n2 = 0 ∧ n4 = 0 := by omega
    rcases (spaceLike_iff s).mp hl with h | h | h | h
    · exact absurd (hn1 ▸ h) (Nat.lt_irrefl 0)
    · exact absurd (hn2 ▸ h) (Nat.lt_irrefl 0)
    · exact hblock h
    · exact absurd (hpos h) (Nat.lt_irrefl 0)

/-- on input that starts like space (blank, tab, comment start) a round consumes at least one byte -/
theorem spaceRound_pos {s : Bytes} (hs : spaceLike s = true) {step : Nat} {s4 : Bytes}
    (h : spaceRound s = some (step, s4)) : 0 < step :=
  (spaceRound_spec h).2.2 hs

theorem spaceRound_notLike {s : Bytes} (h : spaceLike s = false) : spaceRound s = some (0, s) := by
  have := mt (spaceLike_iff s).mpr (by simp [h])
  simp only [not_or, Nat.not_lt, Nat.le_zero, Bool.not_eq_true] at this
  obtain ⟨h1, h2, h3, h4⟩ := this
  simp [spaceRound, lineComment, h1, h2, h3, h4]

theorem spaceLen_notLike (f : Nat) {s : Bytes} (h : spaceLike s = false) : spaceLen f s = some 0 := by
  cases f with
  | zero => rfl
  | succ f => simp [spaceLen, h]

/-- the branch `step = 0` of the model is dead -/
theorem spaceLen_like (f : Nat) {s : Bytes} (h : spaceLike s = true) :
    spaceLen (f + 1) s = (spaceRound s).bind fun r => (spaceLen f (s.drop r.1)).map (· + r.1) := by
  simp only [spaceLen, h, Bool.not_true, Bool.false_eq_true, if_false]
  cases hr : spaceRound s with
  | none => rfl
  | some r =>
    obtain ⟨hd, _, hp⟩ := spaceRound_spec hr
    simp only [Option.bind_some, ← hd, if_neg (Nat.ne_of_gt (hp h))]

theorem spaceLen_spec : ∀ (f : Nat) {s : Bytes} {n : Nat}, s.length < f → spaceLen f s = some n →
    n ≤ s.length ∧ (spaceLike s = true → 0 < n) ∧ spaceLike (s.drop n) = false := by
  intro f
  induction f with
  | zero =>
    intro s n hf
    omega
  | succ f ih =>
    intro s n hf h
    cases hl : spaceLike s with
    | false =>
      rw [spaceLen_notLike _ hl] at h
      cases h
      exact ⟨Nat.zero_le _, nofun, hl⟩
    | true =>
      rw [spaceLen_like f hl] at h
      obtain ⟨⟨step, s4⟩, hr, h⟩ := Option.bind_eq_some_iff.mp h
      obtain ⟨m, hm, rfl⟩ := Option.map_eq_some_iff.mp h
      obtain ⟨_, hle, hp⟩ := spaceRound_spec hr
      have hp := hp hl
      have hlen : (s.drop step).length < f := by
        rw [List.length_drop]
        omega
      obtain ⟨h1, _, h3⟩ := ih hlen hm
      rw [List.drop_drop, Nat.add_comm] at h3
      exact ⟨Nat.add_comm step m ▸ le_of_le_drop hle h1, fun _ => Nat.lt_add_left m hp, h3⟩

theorem spaceLen_fuel : ∀ (f f' : Nat) (s : Bytes), s.length < f → s.length < f' → spaceLen f s = spaceLen f' s := by
  intro f
  induction f with
  | zero =>
    intro f' s h
    omega
  | succ f ih =>
    intro f' s h1 h2
    cases f' with
    | zero => omega
    | succ f' =>
      cases hl : spaceLike s with
      | false => rw [spaceLen_notLike _ hl, spaceLen_notLike _ hl]
      | true =>
        rw [spaceLen_like f hl, spaceLen_like f' hl]
        cases hr : spaceRound s with
        | none => rfl
        | some r =>
          obtain ⟨_, hle, hp⟩ := spaceRound_spec hr
          have hp := hp hl
          have hlen : (s.drop r.1).length < f ∧ (s.drop r.1).length < f' := by
            rw [List.length_drop]
            omega
          simp only [Option.bind_some]
          rw [ih f' (s.drop r.1) hlen.1 hlen.2]

theorem scanTokenAt_spaceLike {s : Bytes} (h : spaceLike s = true) :
    scanTokenAt s = (spaceLen (s.length + 1) s).elim .panic fun n => .tok { kind := "SPACE", len := n } := by
  match s, h with
  | b :: rest, h =>
    unfold scanTokenAt
    simp only
    rcases (spaceLike_cons b rest).mp h with h1 | ⟨h1, c, r, rfl, hc⟩
    · rw [if_pos h1]
      cases spaceLen ((b :: rest).length + 1) (b :: rest) <;> rfl
    · subst h1
      rw [if_neg (by decide), if_pos rfl]
      simp only
      rw [if_pos hc]
      cases spaceLen ((SL :: c :: r).length + 1) (SL :: c :: r) <;> rfl

theorem scan_notLike {b : UInt8} {rest : Bytes} (h : spaceLike (b :: rest) = false) {t : Tok}
    (hs : scanTokenAt (b :: rest) = .tok t) :
    t.kind ≠ "SPACE" ∧ 0 < t.extent ∧ t.extent ≤ rest.length + 1 := by
  obtain ⟨hblank, hcomment⟩ := not_or.mp (mt (spaceLike_cons b rest).mpr (by simp [h]))
  unfold scanTokenAt at hs
  simp only at hs
  rw [if_neg hblank] at hs
  by_cases hb : b = SL
  · rw [if_pos hb] at hs
    have hs : one "SLASH" = .tok t := by
      match rest, hcomment, hs with
      | [], _, hs => exact hs
      | c :: r, hcomment, hs =>
        simp only at hs
        rwa [if_neg (fun hc => hcomment ⟨hb, c, r, rfl, hc⟩)] at hs
    cases hs
    exact ⟨by simp, Nat.one_pos, Nat.le_add_left 1 _⟩
  rw [if_neg hb] at hs
  by_cases hid : (isAlpha b || b == 95) = true
  · -- identifier or keyword; the kind is made a variable first: with the table lookup in the token,
    -- `cases hs` and the unifier unfold `keywords.find?`
    rw [if_pos hid] at hs
    have hk := keyword_ne_space (bytesToString ((b :: rest).take (identLen rest + 1)))
    generalize Option.getD _ "IDENTIFIER" = kind at hs hk
    cases hs
    exact ⟨hk, Nat.succ_pos _, Nat.le_trans (Nat.le_of_eq (Nat.zero_add _)) (Nat.succ_le_succ (identLen_le rest))⟩
  rw [if_neg hid] at hs
  by_cases hnum : isNumber b = true
  · rw [if_pos hnum] at hs
    split at hs
    · rename_i n v hn
      cases hs
      have h1 := intScan_bound hn
      simp only [intScan, hnum, if_true] at hn
      have h2 := intScan_bound hn
      simp only [Tok.extent, List.length_cons] at h1 ⊢
      exact ⟨by simp, by omega⟩
    · cases hs
  rw [if_neg hnum] at hs
  -- the four string forms: `kind` at offset `off`, over the opening quote and a body that ends inside `rest`
  have str : ∀ {kind : String} {off : Nat} {body : Bytes} {r : Except Err (Bytes × Bytes)},
      kind ≠ "SPACE" → off + body.length ≤ rest.length →
      (∀ {v r'}, r = .ok (v, r') → r'.length < body.length) → strTok kind off (body.length + 1) r = .tok t →
      t.kind ≠ "SPACE" ∧ 0 < t.extent ∧ t.extent ≤ rest.length + 1 := fun hk hlen hr h => by
    obtain ⟨v, r', hv, rfl⟩ := strTok_tok h
    have := hr hv
    simp only [Tok.extent]
    exact ⟨hk, by omega⟩
  by_cases hdq : b = DQ
  · rw [if_pos hdq] at hs
    exact str (by simp) (Nat.le_of_eq (Nat.zero_add _)) scanStr_rest_lt hs
  rw [if_neg hdq] at hs
  by_cases hbt : b = BT
  · rw [if_pos hbt] at hs
    exact str (by simp) (Nat.le_of_eq (Nat.zero_add _)) scanRaw_rest_lt hs
  rw [if_neg hbt] at hs
  by_cases hd : b = 36
  · rw [if_pos hd] at hs
    match rest, hs with
    | c :: rest', hs =>
      simp only at hs
      by_cases hdq : c = DQ
      · rw [if_pos hdq] at hs
        exact str (by simp) (Nat.le_of_eq (Nat.add_comm _ _)) scanStr_rest_lt hs
      rw [if_neg hdq] at hs
      by_cases hbt : c = BT
      · rw [if_pos hbt] at hs
        exact str (by simp) (Nat.le_of_eq (Nat.add_comm _ _)) scanRaw_rest_lt hs
      · rw [if_neg hbt] at hs
        cases hs
  rw [if_neg hd] at hs
  obtain ⟨h1, h2, h3, h4⟩ := scanPunct_tok hs
  simp only [Tok.extent]
  exact ⟨h1, by omega⟩

theorem scanTokenAt_tok {s : Bytes} {t : Tok} (h : scanTokenAt s = .tok t) :
    t.extent ≤ s.length ∧ (s ≠ [] → 0 < t.extent) ∧ (t.kind = "SPACE" ↔ spaceLike s = true) := by
  match s, h with
  | [], h =>
    cases h
    exact ⟨Nat.le_refl _, fun h => absurd rfl h, by simp [spaceLike]⟩
  | b :: rest, h =>
    cases hl : spaceLike (b :: rest) with
    | false =>
      obtain ⟨h1, h2, h3⟩ := scan_notLike hl h
      exact ⟨h3, fun _ => h2, by simp [h1]⟩
    | true =>
      rw [scanTokenAt_spaceLike hl] at h
      cases hn : spaceLen ((b :: rest).length + 1) (b :: rest) with
      | none =>
        rw [hn] at h
        cases h
      | some n =>
        rw [hn] at h
        cases h
        obtain ⟨h1, h2, _⟩ := spaceLen_spec _ (Nat.lt_succ_self _) hn
        have e : ({ kind := "SPACE", len := n } : Tok).extent = n := Nat.zero_add n
        exact ⟨Nat.le_trans (Nat.le_of_eq e) h1, fun _ => Nat.lt_of_lt_of_eq (h2 hl) e.symm, by simp⟩

theorem scan_notLike_kind {s : Bytes} (h : spaceLike s = false) {t : Tok} (hs : scanTokenAt s = .tok t) :
    t.kind ≠ "SPACE" := by
  intro hk
  rw [(scanTokenAt_tok hs).2.2.mp hk] at h
  cases h

theorem nextNonSpace_notLike (F off : Nat) {s : Bytes} (h : spaceLike s = false) :
    nextNonSpace (F + 1) off s = match scanTokenAt s with
      | .panic => none
      | .tok t => some (off + t.beginOff, t) := by
  simp only [nextNonSpace]
  cases hs : scanTokenAt s with
  | panic => rfl
  | tok t => simp only [if_neg (scan_notLike_kind h hs)]

/-- `nextToken` without its loop: two scans always suffice, because the SPACE scanner stops only where the
buffer does not begin like space -/
theorem nextNonSpace_eq {F : Nat} (hF : 2 ≤ F) (off : Nat) (s : Bytes) :
    nextNonSpace F off s = (spaceLen (s.length + 1) s).bind fun n =>
      match scanTokenAt (s.drop n) with
      | .panic => none
      | .tok t => some (off + n + t.beginOff, t) := by
  obtain ⟨F, rfl⟩ := Nat.exists_eq_add_of_le' hF
  cases hl : spaceLike s with
  | false =>
    rw [nextNonSpace_notLike _ _ hl, spaceLen_notLike _ hl]
    rfl
  | true =>
    simp only [nextNonSpace, scanTokenAt_spaceLike hl]
    cases hn : spaceLen (s.length + 1) s with
    | none => rfl
    | some n =>
      have hstop := (spaceLen_spec _ (Nat.lt_succ_self _) hn).2.2
      simp only [Option.elim, if_true, Tok.extent, Nat.zero_add, Option.bind_some]
      exact nextNonSpace_notLike F (off + n) hstop

theorem nextNonSpace_fuel : ∀ (F F' : Nat) (s : Bytes) (off : Nat), s.length + 2 ≤ F → s.length + 2 ≤ F' →
    nextNonSpace F off s = nextNonSpace F' off s := by
  intro F F' s off h h'
  rw [nextNonSpace_eq (Nat.le_of_add_left_le h), nextNonSpace_eq (Nat.le_of_add_left_le h')]

theorem nextNonSpace_off {F : Nat} (hF : 2 ≤ F) (s : Bytes) (off k : Nat) :
    nextNonSpace F (off + k) s = (nextNonSpace F off s).map (fun r => (r.1 + k, r.2)) := by
  rw [nextNonSpace_eq hF, nextNonSpace_eq hF]
  cases spaceLen (s.length + 1) s with
  | none => rfl
  | some n =>
    simp only [Option.bind_some]
    cases scanTokenAt (s.drop n) with
    | panic => rfl
    | tok t => simp only [Option.map_some, Nat.add_right_comm _ k]

theorem newTkz_eq (buf : Bytes) :
    newTkz buf =
      (nextNonSpace (buf.length + 2) 0 buf).map fun r => { buf := buf, cur := r.2, bpos := r.1, col := r.1 } := by
  unfold newTkz
  cases nextNonSpace (buf.length + 2) 0 buf <;> rfl

/-- the state `tkzNext z` moves to when the next token is `r.2` and begins at `r.1` -/
def Tkz.moveTo (z : Tkz) (r : Nat × Tok) : Tkz :=
  Tkz.mk z.buf r.2 r.1
    (if z.cur.kind = "EOL" then (r.1 : Int) - ((z.bpos + z.cur.len : Nat) : Int)
      else z.col + ((r.1 : Int) - (z.bpos : Int)))

theorem tkzNext_of_ne_eof {z : Tkz} (hk : z.cur.kind ≠ "EOF") :
    tkzNext z =
      (if z.buf.length ≤ z.bpos + z.cur.len then some (z.buf.length, ({ kind := "EOF", len := 0 } : Tok))
        else nextNonSpace (z.buf.length + 2) (z.bpos + z.cur.len) (z.buf.drop (z.bpos + z.cur.len))).map
      z.moveTo := by
  simp only [tkzNext, if_neg hk]
  split
  · rfl
  · cases nextNonSpace (z.buf.length + 2) (z.bpos + z.cur.len) (z.buf.drop (z.bpos + z.cur.len)) <;> rfl

/-- while the current token lies inside the buffer, the end of the buffer needs no case of its own: the
scanner returns the EOF token there -/
theorem tkzNext_inside {z : Tkz} (hk : z.cur.kind ≠ "EOF") (hin : z.bpos + z.cur.len ≤ z.buf.length) :
    tkzNext z =
      (nextNonSpace (z.buf.length + 2) (z.bpos + z.cur.len) (z.buf.drop (z.bpos + z.cur.len))).map z.moveTo := by
  rw [tkzNext_of_ne_eof hk]
  by_cases hle : z.buf.length ≤ z.bpos + z.cur.len
  · rw [if_pos hle, Nat.le_antisymm hin hle, List.drop_length]
    rfl
  · rw [if_neg hle]

end Folang.Tokenizer
