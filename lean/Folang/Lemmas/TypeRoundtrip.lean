import Folang.Lemmas.TypeParse
/-
Round trip of the type-expression parser model on every rendering of every concrete syntax tree:
one induction on the fuel over one statement per parser function.  Each parser function spends one
unit of fuel per grammar level, so the step follows the parser's own definition.
-/
namespace Folang.TypeExpr
variable (env : TEnv)

/-- what may follow without being taken for part of it: a TERM or ATOM (`StopM`: no `.` and no `<`, which
continue a name), an ELEM (`StopE`: nor a `*`), a TYPE (`StopT`: nor an `->`) -/
def StopM (rest : List TTok) : Prop := notHead .dot rest ∧ notHead .lt rest
def StopE (rest : List TTok) : Prop := StopM rest ∧ notHead .star rest
def StopT (rest : List TTok) : Prop := StopE rest ∧ notHead .arrow rest

theorem StopT.cons {x : TTok} (r : List TTok) (h : x ≠ .dot ∧ x ≠ .lt ∧ x ≠ .star ∧ x ≠ .arrow) :
    StopT (x :: r) :=
  ⟨⟨⟨notHead_cons h.1, notHead_cons h.2.1⟩, notHead_cons h.2.2.1⟩, notHead_cons h.2.2.2⟩

theorem StopT.nil : StopT [] :=
  ⟨⟨⟨nofun, nofun⟩, nofun⟩, nofun⟩

theorem renderAtom_head (a : SAtom) : ∃ x tl, renderAtom a = x :: tl ∧ (x = .lp ∨ ∃ s, x = .id s) := by
  cases a with
  | base b => exact ⟨_, _, rfl, .inr ⟨_, rfl⟩⟩
  | unit => exact ⟨_, _, rfl, .inl rfl⟩
  | paren t => exact ⟨_, _, rfl, .inl rfl⟩
  | named p1 ps targs =>
    obtain ⟨tl, htl⟩ := pathToks_head p1 ps
    cases targs with
    | nil => exact ⟨_, tl, htl, .inr ⟨_, rfl⟩⟩
    | cons t ts => exact ⟨_, _, congrArg (· ++ _) htl, .inr ⟨_, rfl⟩⟩

theorem renderTy_head (t : STy) : ∃ x tl, renderTy t = x :: tl ∧ x ≠ .rp := by
  obtain ⟨⟨m, ms⟩, es⟩ := t
  suffices h : ∃ x tl, renderTerm m = x :: tl ∧ x ≠ .rp by
    obtain ⟨x, tl, h, hx⟩ := h
    exact ⟨x, tl ++ renderTerms ms ++ renderElems es, by simp only [renderTy, renderElem, h, List.cons_append], hx⟩
  cases m with
  | slice e => exact ⟨_, _, rfl, by decide⟩
  | atom a =>
    obtain ⟨x, tl, h, hx⟩ := renderAtom_head a
    refine ⟨x, tl, h, ?_⟩
    rcases hx with rfl | ⟨s, rfl⟩ <;> simp

theorem denoteTys_length : ∀ l : List STy, (denoteTys env l).length = l.length
  | [] => rfl
  | _ :: l => congrArg (· + 1) (denoteTys_length l)

structure RT (k : Nat) : Prop where
  ty : ∀ t, wfTy env t = true → sizeTy t ≤ k → ∀ rest, StopT rest →
    parseType env k (renderTy t ++ rest) = some (denoteTy env t, rest)
  elems : ∀ f es, wfElem env f = true → wfElems env es = true → 1 + sizeElem f + sizeElems es ≤ k →
    ∀ rest, StopT rest →
      parseTypeArrows env k (renderElem f ++ renderElems es ++ rest) =
        some (denoteElem env f :: denoteElems env es, rest)
  elem : ∀ e, wfElem env e = true → sizeElem e ≤ k → ∀ rest, StopE rest →
    parseElemType env k (renderElem e ++ rest) = some (denoteElem env e, rest)
  terms : ∀ f ts, wfTerm env f = true → wfTerms env ts = true → 1 + sizeTerm f + sizeTerms ts ≤ k →
    ∀ rest, StopE rest →
      parseTermList env k (renderTerm f ++ renderTerms ts ++ rest) =
        some (denoteTerm env f :: denoteTerms env ts, rest)
  term : ∀ m, wfTerm env m = true → sizeTerm m ≤ k → ∀ rest, StopM rest →
    parseTermType env k (renderTerm m ++ rest) = some (denoteTerm env m, rest)
  atom : ∀ a, wfAtom env a = true → sizeAtom a ≤ k → ∀ rest, StopM rest →
    parseAtomType env k (renderAtom a ++ rest) = some (denoteAtom env a, rest)
  tys : ∀ t ts, wfTy env t = true → wfTys env ts = true → 1 + sizeTy t + sizeTys ts ≤ k → ∀ rest,
    parseTypeList env k (renderTy t ++ renderTys ts ++ .gt :: rest) =
      some (denoteTy env t :: denoteTys env ts, .gt :: rest)

variable {env}

theorem rt_zero : RT env 0 where
  ty t _ h := by
    cases t
    simp [sizeTy] at h
  elems _ _ _ _ h := by simp at h
  elem e _ h := by
    cases e
    simp [sizeElem] at h
  terms _ _ _ _ h := by simp at h
  term m _ h := by cases m <;> simp [sizeTerm] at h
  atom a _ h := by cases a <;> simp [sizeAtom] at h
  tys _ _ _ _ h := by simp at h

theorem rt_step {k : Nat} (ih : RT env k) : RT env (k + 1) where
  ty t hwf hk rest hs := by
    obtain ⟨f, es⟩ := t
    simp only [wfTy, Bool.and_eq_true] at hwf
    simp only [sizeTy] at hk
    have h := ih.elems f es hwf.1 hwf.2 (by omega) rest hs
    rw [renderTy]
    cases es with
    | nil => exact pType_one env h
    | cons e es => exact pType_many env h
  elems f es hwf hwes hk rest hs := by
    cases es with
    | nil =>
      simp only [sizeElems] at hk
      rw [renderElems, List.append_nil]
      exact pArrows_last env (ih.elem f hwf (by omega) rest hs.1) hs.2
    | cons e es =>
      simp only [sizeElems] at hk
      simp only [wfElems, Bool.and_eq_true] at hwes
      simp only [renderElems, List.append_assoc, List.cons_append]
      exact pArrows_more env
        (ih.elem f hwf (by omega) _ ⟨⟨notHead_cons (by decide), notHead_cons (by decide)⟩, notHead_cons (by decide)⟩)
        (List.append_assoc .. ▸ ih.elems e es hwes.1 hwes.2 (by omega) rest hs)
  elem e hwf hk rest hs := by
    obtain ⟨f, ts⟩ := e
    simp only [wfElem, Bool.and_eq_true] at hwf
    simp only [sizeElem] at hk
    have h := ih.terms f ts hwf.1 hwf.2 (by omega) rest hs
    rw [renderElem]
    cases ts with
    | nil => exact pElem_one env h
    | cons t ts => exact pElem_many env h
  terms f ts hwf hwts hk rest hs := by
    cases ts with
    | nil =>
      simp only [sizeTerms] at hk
      rw [renderTerms, List.append_nil]
      exact pTerms_last env (ih.term f hwf (by omega) rest hs.1) hs.2
    | cons t ts =>
      simp only [sizeTerms] at hk
      simp only [wfTerms, Bool.and_eq_true] at hwts
      simp only [renderTerms, List.append_assoc, List.cons_append]
      exact pTerms_more env
        (ih.term f hwf (by omega) _ ⟨notHead_cons (by decide), notHead_cons (by decide)⟩)
        (List.append_assoc .. ▸ ih.terms t ts hwts.1 hwts.2 (by omega) rest hs)
  term m hwf hk rest hs := by
    cases m with
    | slice e =>
      simp only [wfTerm] at hwf
      simp only [sizeTerm] at hk
      exact pTerm_slice env (ih.term e hwf (by omega) rest hs)
    | atom a =>
      simp only [wfTerm] at hwf
      simp only [sizeTerm] at hk
      obtain ⟨x, tl, hx, hopen⟩ := renderAtom_head a
      have hlb : notHead .lb (renderAtom a ++ rest) := by
        rw [hx]
        rcases hopen with rfl | ⟨s, rfl⟩ <;> exact notHead_cons (by simp)
      rw [renderTerm, denoteTerm, pTerm_atom env hlb]
      exact ih.atom a hwf (by omega) rest hs
  atom a hwf hk rest hs := by
    cases a with
    | base b => exact pAtom_base env b rest
    | unit => exact pAtom_unit env
    | paren t =>
      simp only [wfAtom] at hwf
      simp only [sizeAtom] at hk
      obtain ⟨x, tl, hx, hne⟩ := renderTy_head t
      have h := ih.ty t hwf (by omega) (.rp :: rest) (.cons _ (by decide))
      simp only [renderAtom, denoteAtom, List.cons_append, List.append_assoc]
      rw [hx] at h ⊢
      exact pAtom_paren env hne h
    | named p1 ps targs =>
      simp only [sizeAtom] at hk
      simp only [wfAtom, Bool.and_eq_true, Bool.not_eq_true'] at hwf
      obtain ⟨⟨hb, hwts⟩, hlook⟩ := hwf
      cases hl : env.lookup (pathName p1 ps) with
      | none => simp [hl] at hlook
      | some r =>
        obtain ⟨kind, goName, arity⟩ := r
        simp only [hl, beq_iff_eq] at hlook
        cases targs with
        | nil =>
          subst hlook
          simp only [renderAtom, denoteAtom, hl, denoteTys]
          exact pAtom_named0 env hb (by omega) hs.1 hs.2 hl
        | cons t ts =>
          simp only [sizeTys] at hk
          simp only [wfTys, Bool.and_eq_true] at hwts
          simp only [renderAtom, denoteAtom, hl, List.append_assoc, List.cons_append]
          exact pAtom_namedN env hb (by omega) hl
            (List.append_assoc .. ▸ ih.tys t ts hwts.1 hwts.2 (by omega) rest)
            ((denoteTys_length env (t :: ts)).trans hlook.symm)
  tys t ts hwf hwts hk rest := by
    cases ts with
    | nil =>
      simp only [sizeTys] at hk
      rw [renderTys, List.append_nil]
      exact pTys_last env (ih.ty t hwf (by omega) _ (.cons _ (by decide))) (notHead_cons (by decide))
    | cons t2 ts =>
      simp only [sizeTys] at hk
      simp only [wfTys, Bool.and_eq_true] at hwts
      simp only [renderTys, List.append_assoc, List.cons_append]
      exact pTys_more env (ih.ty t hwf (by omega) _ (.cons _ (by decide)))
        (List.append_assoc .. ▸ ih.tys t2 ts hwts.1 hwts.2 (by omega) rest)

theorem rt_all (env : TEnv) : ∀ k, RT env k
  | 0 => rt_zero
  | k + 1 => rt_step (rt_all env k)

end Folang.TypeExpr
