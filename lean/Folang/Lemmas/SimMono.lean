import Folang.Sem.Lower
/-
Fuel monotonicity of both evaluators: a result obtained with fuel n is obtained with any larger fuel, so
fuel is a definitional device only.  The step functions are monotone in the record of evaluators they call
(one lemma per function, by the shape of its definition); the shared combinators are treated once for both
languages.  Before that, inversion and introduction lemmas for `Res.bind`.
-/
namespace Folang.Sem

theorem Res.bind_eq_some {α β : Type} {x : Res α} {f : α → Res β} {t : Trace} {b : β} :
    Res.bind x f = some (t, b) ↔ ∃ t1 a t2, x = some (t1, a) ∧ f a = some (t2, b) ∧ t = t1 ++ t2 := by
  unfold Res.bind
  constructor
  · intro h
    split at h
    · cases h
    · rename_i t1 a
      split at h
      · cases h
      · rename_i t2 b' hf
        simp only [Option.some.injEq, Prod.mk.injEq] at h
        exact ⟨t1, a, t2, rfl, by rw [hf, ← h.2], h.1.symm⟩
  · rintro ⟨t1, a, t2, hx, hf, ht⟩
    subst hx
    simp [hf, ht]

theorem Res.pure_eq_some {α : Type} {a b : α} {t : Trace} : (Res.pure a : Res α) = some (t, b) ↔ t = [] ∧ b = a := by
  simp [Res.pure, eq_comm]

theorem Res.bind_some {α β : Type} {x : Res α} {f : α → Res β} {t1 t2 : Trace} {a : α} {b : β}
    (hx : x = some (t1, a)) (hf : f a = some (t2, b)) : Res.bind x f = some (t1 ++ t2, b) :=
  Res.bind_eq_some.mpr ⟨t1, a, t2, hx, hf, rfl⟩

theorem Res.bind_some_nil {α β : Type} {x : Res α} {f : α → Res β} {t : Trace} {a : α} {b : β}
    (hx : x = some (t, a)) (hf : f a = some ([], b)) : Res.bind x f = some (t, b) :=
  t.append_nil ▸ Res.bind_some hx hf

theorem Res.bind_pure_eq_some {α β : Type} {x : Res α} {g : α → β} {t : Trace} {b : β} :
    Res.bind x (fun a => Res.pure (g a)) = some (t, b) ↔ ∃ a, x = some (t, a) ∧ b = g a := by
  constructor
  · intro h
    obtain ⟨t1, a, t2, h1, h2, rfl⟩ := Res.bind_eq_some.mp h
    obtain ⟨rfl, rfl⟩ := Res.pure_eq_some.mp h2
    exact ⟨a, by rw [List.append_nil]; exact h1, rfl⟩
  · rintro ⟨a, h1, rfl⟩
    exact Res.bind_some_nil h1 rfl

theorem ofOpt_eq_some {α : Type} {o : Option α} {t : Trace} {a : α} : ofOpt o = some (t, a) ↔ t = [] ∧ o = some a := by
  cases o <;> simp [ofOpt, eq_comm]

theorem evalList_cons_eq_some {ε α β : Type} {f : ε → α → Res β} {env : ε} {e : α} {es : List α} {t : Trace} {vs : List β} :
    evalList f env (e :: es) = some (t, vs) ↔
      ∃ t1 v t2 vs', f env e = some (t1, v) ∧ evalList f env es = some (t2, vs') ∧ t = t1 ++ t2 ∧ vs = v :: vs' := by
  constructor
  · intro h
    obtain ⟨t1, v, t2, h1, h2, rfl⟩ := Res.bind_eq_some.mp h
    obtain ⟨vs', h3, rfl⟩ := Res.bind_pure_eq_some.mp h2
    exact ⟨t1, v, t2, vs', h1, h3, rfl, rfl⟩
  · rintro ⟨t1, v, t2, vs', h1, h2, rfl, rfl⟩
    exact Res.bind_some h1 (Res.bind_some_nil h2 rfl)

theorem applyFull_eq_some_iff {P : Prog} {r : Rec} {f : String} {arity : Nat} {all : List SVal} {x : Trace × SVal} :
    applyFull r P f arity all = some x ↔
      all.length = arity ∧ ∃ d, P.find f = some d ∧ d.params.length = arity ∧
        r.body (d.params.zip all).reverse d.body = some x := by
  unfold applyFull
  by_cases hlen : all.length = arity
  · rw [if_pos hlen]
    cases P.find f with
    | none => simp [hlen, stuck]
    | some d =>
      by_cases hpl : d.params.length = arity
      · simp [hlen, hpl]
      · simp [hlen, hpl, stuck]
  · simp [hlen, stuck]

/-- `x ≤ y` on results: whatever `x` yields, `y` yields too -/
def Res.le {α : Type} (x y : Res α) : Prop := ∀ v, x = some v → y = some v

@[refl] theorem Res.le_refl {α : Type} (x : Res α) : Res.le x x := fun _ h => h

theorem Res.le_agree {α : Type} {x y z : Res α} (hx : Res.le x z) (hy : Res.le y z) {r r' : Trace × α}
    (h : x = some r) (h' : y = some r') : r = r' :=
  Option.some.inj ((hx r h).symm.trans (hy r' h'))

theorem Res.bind_le {α β : Type} {x x' : Res α} {f f' : α → Res β} (hx : Res.le x x') (hf : ∀ a, Res.le (f a) (f' a)) :
    Res.le (Res.bind x f) (Res.bind x' f') := by
  rintro ⟨t, b⟩ h
  obtain ⟨t1, a, t2, h1, h2, h3⟩ := Res.bind_eq_some.mp h
  exact Res.bind_eq_some.mpr ⟨t1, a, t2, hx _ h1, hf a _ h2, h3⟩

theorem evalList_le {ε α β : Type} {f f' : ε → α → Res β} (h : ∀ env e, Res.le (f env e) (f' env e)) (env : ε) (es : List α) :
    Res.le (evalList f env es) (evalList f' env es) := by
  induction es with
  | nil => rfl
  | cons e es ih =>
    exact Res.bind_le (h env e) (fun v => Res.bind_le ih (fun _ => Res.le_refl _))

theorem mapApp_le {V : Type} {app app' : V → List V → Res V} (h : ∀ f a, Res.le (app f a) (app' f a)) (inj : FO → V) (f : V) (xs : List FO) :
    Res.le (mapApp app inj f xs) (mapApp app' inj f xs) := by
  induction xs with
  | nil => rfl
  | cons x xs ih =>
    exact Res.bind_le (h _ _) (fun _ => Res.bind_le ih (fun _ => Res.le_refl _))

theorem filterApp_le {V : Type} {app app' : V → List V → Res V} (h : ∀ f a, Res.le (app f a) (app' f a)) (inj : FO → V) (prj : V → Option FO) (f : V) (xs : List FO) :
    Res.le (filterApp app inj prj f xs) (filterApp app' inj prj f xs) := by
  induction xs with
  | nil => rfl
  | cons x xs ih =>
    refine Res.bind_le (h _ _) (fun y => ?_)
    split
    · exact Res.bind_le ih (fun _ => Res.le_refl _)
    · rfl

theorem foldApp_le {V : Type} {app app' : V → List V → Res V} (h : ∀ f a, Res.le (app f a) (app' f a)) (inj : FO → V) (f : V) (acc : V) (xs : List FO) :
    Res.le (foldApp app inj f acc xs) (foldApp app' inj f acc xs) := by
  induction xs generalizing acc with
  | nil => rfl
  | cons x xs ih =>
    exact Res.bind_le (h _ _) (fun acc' => ih acc')

structure GRec.le (r r' : GRec) : Prop where
  expr : ∀ env e, Res.le (r.expr env e) (r'.expr env e)
  body : ∀ env b, Res.le (r.body env b) (r'.body env b)
  app : ∀ f a, Res.le (r.app f a) (r'.app f a)

theorem gevalSwitch_le {r r' : GRec} (h : GRec.le r r') (env : GEnv) (t : GExpr) (cases : List GCase) :
    Res.le (gevalSwitch r env t cases) (gevalSwitch r' env t cases) := by
  refine Res.bind_le (h.expr _ _) (fun vt => ?_)
  split
  · split
    · split
      · exact h.body _ _
      · rfl
    · rfl
  · rfl

theorem gevalSwitchS_le {r r' : GRec} (h : GRec.le r r') (env : GEnv) (t : GExpr) (cases : List GSCase) :
    Res.le (gevalSwitchS r env t cases) (gevalSwitchS r' env t cases) := by
  refine Res.bind_le (h.expr _ _) (fun vt => ?_)
  split
  · split
    · exact h.body _ _
    · rfl
  · rfl

theorem gstepExpr_le {r r' : GRec} (h : GRec.le r r') (P : GProg) (env : GEnv) (e : GExpr) :
    Res.le (gstepExpr r P env e) (gstepExpr r' P env e) := by
  cases e with
  | lit _ | var _ | funcLit _ _ => rfl
  | prim p args =>
    exact Res.bind_le (evalList_le h.expr env args) (fun _ => Res.le_refl _)
  | and a b | or a b =>
    refine Res.bind_le (h.expr _ _) (fun va => ?_)
    split
    · rfl
    · exact h.expr _ _
    · rfl
  | ifElse c t f =>
    refine Res.bind_le (h.expr _ _) (fun vc => Res.bind_le (h.expr _ _) (fun vt => Res.bind_le (h.expr _ _) (fun vf => ?_)))
    split
    · exact h.app _ _
    · exact h.app _ _
    · rfl
  | ifOnly c t =>
    refine Res.bind_le (h.expr _ _) (fun vc => Res.bind_le (h.expr _ _) (fun vt => ?_))
    split
    · exact Res.bind_le (h.app _ _) (fun _ => Res.le_refl _)
    · rfl
    · rfl
  | callFn f args =>
    refine Res.bind_le (evalList_le h.expr env args) (fun vs => ?_)
    split
    · split
      · exact h.body _ _
      · rfl
    · rfl
  | callVal f args =>
    exact Res.bind_le (h.expr _ _) (fun fv => Res.bind_le (evalList_le h.expr env args) (fun vs => h.app _ _))
  | pipe a f =>
    exact Res.bind_le (h.expr _ _) (fun va => Res.bind_le (h.expr _ _) (fun vf => h.app _ _))
  | hof hn f args =>
    refine Res.bind_le (h.expr _ _) (fun vf => Res.bind_le (evalList_le h.expr env args) (fun vs => ?_))
    split
    · exact Res.bind_le (mapApp_le h.app _ _ _) (fun _ => Res.le_refl _)
    · exact Res.bind_le (filterApp_le h.app _ _ _ _) (fun _ => Res.le_refl _)
    · exact foldApp_le h.app _ _ _ _
    · rfl

theorem grunStmts_le {r r' : GRec} (h : GRec.le r r') (env : GEnv) (ss : List GStmt) :
    Res.le (grunStmts r env ss) (grunStmts r' env ss) := by
  induction ss generalizing env with
  | nil => rfl
  | cons s ss ih =>
    cases s with
    | define x e | exec e =>
      exact Res.bind_le (h.expr _ _) (fun v => ih _)
    | define2 x y e =>
      refine Res.bind_le (h.expr _ _) (fun v => ?_)
      split
      · exact ih _
      · rfl

theorem gstepBody_le {r r' : GRec} (h : GRec.le r r') (env : GEnv) (b : GBody) :
    Res.le (gstepBody r env b) (gstepBody r' env b) := by
  cases b with
  | mk ss tail =>
    refine Res.bind_le (grunStmts_le h env ss) (fun env' => ?_)
    cases tail with
    | ret e => exact h.expr _ _
    | switch t cases => exact gevalSwitch_le h _ _ _
    | switchS t cases => exact gevalSwitchS_le h _ _ _

theorem gstepApp_le {r r' : GRec} (h : GRec.le r r') (f : GVal) (args : List GVal) :
    Res.le (gstepApp r f args) (gstepApp r' f args) := by
  cases f with
  | fo v => rfl
  | clo ps b cenv =>
    simp only [gstepApp]
    split
    · exact h.body _ _
    · rfl

theorem gevalN_mono (P : GProg) {n m : Nat} (h : n ≤ m) : GRec.le (gevalN P n) (gevalN P m) := by
  induction n generalizing m with
  | zero => exact ⟨fun _ _ _ h => (nomatch h), fun _ _ _ h => (nomatch h), fun _ _ _ h => (nomatch h)⟩
  | succ n ih =>
    obtain ⟨m, rfl⟩ := Nat.exists_eq_add_one_of_ne_zero (Nat.ne_zero_of_lt h)
    have ih := ih (Nat.le_of_succ_le_succ h)
    exact ⟨gstepExpr_le ih P, gstepBody_le ih, gstepApp_le ih⟩

structure Rec.le (r r' : Rec) : Prop where
  expr : ∀ env e, Res.le (r.expr env e) (r'.expr env e)
  body : ∀ env b, Res.le (r.body env b) (r'.body env b)
  app : ∀ f a, Res.le (r.app f a) (r'.app f a)

theorem applyFull_le {r r' : Rec} (h : Rec.le r r') (P : Prog) (f : String) (arity : Nat) (all : List SVal) :
    Res.le (applyFull r P f arity all) (applyFull r' P f arity all) := by
  intro x hx
  obtain ⟨hlen, d, hf, hp, hb⟩ := applyFull_eq_some_iff.mp hx
  exact applyFull_eq_some_iff.mpr ⟨hlen, d, hf, hp, h.body _ _ x hb⟩

theorem evalMatch_le {r r' : Rec} (h : Rec.le r r') (env : Env) (t : Expr) (arms : List Arm) :
    Res.le (evalMatch r env t arms) (evalMatch r' env t arms) := by
  refine Res.bind_le (h.expr _ _) (fun vt => ?_)
  split
  · split
    · split
      · exact h.body _ _
      · rfl
    · rfl
  · rfl

theorem evalMatchS_le {r r' : Rec} (h : Rec.le r r') (env : Env) (t : Expr) (arms : List SArm) :
    Res.le (evalMatchS r env t arms) (evalMatchS r' env t arms) := by
  refine Res.bind_le (h.expr _ _) (fun vt => ?_)
  split
  · split
    · exact h.body _ _
    · rfl
  · rfl

theorem stepExpr_le {r r' : Rec} (h : Rec.le r r') (P : Prog) (env : Env) (e : Expr) :
    Res.le (stepExpr r P env e) (stepExpr r' P env e) := by
  cases e with
  | lit _ | var _ | lam _ _ => rfl
  | prim p args =>
    exact Res.bind_le (evalList_le h.expr env args) (fun _ => Res.le_refl _)
  | and a b | or a b =>
    refine Res.bind_le (h.expr _ _) (fun va => ?_)
    split
    · rfl
    · exact h.expr _ _
    · rfl
  | ite c t f =>
    refine Res.bind_le (h.expr _ _) (fun vc => ?_)
    split
    · exact h.body _ _
    · exact h.body _ _
    · rfl
  | call f arity args =>
    refine Res.bind_le (evalList_le h.expr env args) (fun vs => ?_)
    split
    · rfl
    · exact applyFull_le h P f arity vs
  | callv f args =>
    exact Res.bind_le (h.expr _ _) (fun fv => Res.bind_le (evalList_le h.expr env args) (fun vs => h.app _ _))
  | pipe a f =>
    exact Res.bind_le (h.expr _ _) (fun va => Res.bind_le (h.expr _ _) (fun vf => h.app _ _))
  | hof hn f args =>
    refine Res.bind_le (h.expr _ _) (fun vf => Res.bind_le (evalList_le h.expr env args) (fun vs => ?_))
    split
    · exact Res.bind_le (mapApp_le h.app _ _ _) (fun _ => Res.le_refl _)
    · exact Res.bind_le (filterApp_le h.app _ _ _ _) (fun _ => Res.le_refl _)
    · exact foldApp_le h.app _ _ _ _
    · rfl
  | matchE t arms => exact evalMatch_le h env t arms
  | matchSE t arms => exact evalMatchS_le h env t arms

theorem runStmts_le {r r' : Rec} (h : Rec.le r r') (env : Env) (ss : List Stmt) :
    Res.le (runStmts r env ss) (runStmts r' env ss) := by
  induction ss generalizing env with
  | nil => rfl
  | cons s ss ih =>
    cases s with
    | let1 x e | exec e =>
      exact Res.bind_le (h.expr _ _) (fun v => ih _)
    | let2 x y e =>
      refine Res.bind_le (h.expr _ _) (fun v => ?_)
      split
      · exact ih _
      · rfl
    | ifonly c b =>
      refine Res.bind_le (h.expr _ _) (fun vc => ?_)
      split
      · exact Res.bind_le (h.body _ _) (fun _ => ih _)
      · exact ih _
      · rfl

theorem stepBody_le {r r' : Rec} (h : Rec.le r r') (env : Env) (b : Body) :
    Res.le (stepBody r env b) (stepBody r' env b) := by
  cases b with
  | mk ss tail =>
    refine Res.bind_le (runStmts_le h env ss) (fun env' => ?_)
    cases tail with
    | ret e => exact h.expr _ _
    | matchT t arms => exact evalMatch_le h _ _ _
    | matchST t arms => exact evalMatchS_le h _ _ _

theorem stepApp_le {r r' : Rec} (h : Rec.le r r') (P : Prog) (f : SVal) (args : List SVal) :
    Res.le (stepApp r P f args) (stepApp r' P f args) := by
  cases f with
  | fo v => rfl
  | clo ps b cenv =>
    simp only [stepApp]
    split
    · exact h.body _ _
    · rfl
  | pap f arity given => exact applyFull_le h P f arity _

theorem evalN_mono (P : Prog) {n m : Nat} (h : n ≤ m) : Rec.le (evalN P n) (evalN P m) := by
  induction n generalizing m with
  | zero => exact ⟨fun _ _ _ h => (nomatch h), fun _ _ _ h => (nomatch h), fun _ _ _ h => (nomatch h)⟩
  | succ n ih =>
    obtain ⟨m, rfl⟩ := Nat.exists_eq_add_one_of_ne_zero (Nat.ne_zero_of_lt h)
    have ih := ih (Nat.le_of_succ_le_succ h)
    exact ⟨stepExpr_le ih P, stepBody_le ih, stepApp_le ih P⟩

end Folang.Sem
