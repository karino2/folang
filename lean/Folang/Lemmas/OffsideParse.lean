import Folang.Model.Offside
/-
The three `_succ` equations (each parser one unit of fuel down) hold by unfolding the definitions; proofs
rewrite with them and never unfold a parser: `simp [pStmt]` makes Lean derive the equation lemmas of the
mutual definition anew in every module that does it.
-/
namespace Folang.Offside

theorem skipEOL_length : ∀ (ts : List Tok), (skipEOL ts).length ≤ ts.length
  | [] => Nat.le_refl _
  | ⟨.eol, _⟩ :: r => Nat.le_succ_of_le (skipEOL_length r)
  | ⟨.word _, _⟩ :: _ | ⟨.opener, _⟩ :: _ | ⟨.eof, _⟩ :: _ => Nat.le_refl _

theorem takeWords_length : ∀ (ts : List Tok), (takeWords ts).2.length + (takeWords ts).1.length = ts.length
  | [] => rfl
  | ⟨.word _, _⟩ :: r => congrArg (· + 1) (takeWords_length r)
  | ⟨.opener, _⟩ :: _ | ⟨.eol, _⟩ :: _ | ⟨.eof, _⟩ :: _ => rfl

theorem skipEOL_allEol {es : List Tok} (h : AllEol es) (r : List Tok) : skipEOL (es ++ r) = skipEOL r := by
  induction es with
  | nil => rfl
  | cons t es ih =>
    obtain ⟨k, col⟩ := t
    cases (h _ (List.mem_cons_self ..) : k = .eol)
    exact ih fun x hx => h x (List.mem_cons_of_mem _ hx)

theorem skipEOL_noneol : ∀ {t : Tok}, t.k ≠ .eol → ∀ r, skipEOL (t :: r) = t :: r
  | ⟨.eol, _⟩, h, _ => absurd rfl h
  | ⟨.word _, _⟩, _, _ | ⟨.opener, _⟩, _, _ | ⟨.eof, _⟩, _, _ => rfl

theorem takeWords_words {k : K} (hk : ∀ n, k ≠ .word n) (c : Nat) (r : List Tok) :
    ∀ {ws : List Nat} {ws' : List Tok}, Words ws ws' → takeWords (ws' ++ ⟨k, c⟩ :: r) = (ws, ⟨k, c⟩ :: r)
  | [], [], _ => by
    cases k with
    | word n => exact absurd rfl (hk n)
    | _ => rfl
  | w :: ws, ⟨k', _⟩ :: ts, h => by
    cases (h.1 : k' = .word w)
    show ((takeWords (ts ++ ⟨k, c⟩ :: r)).1.cons w, (takeWords (ts ++ ⟨k, c⟩ :: r)).2) = _
    rw [takeWords_words hk c r h.2]
  | [], _ :: _, h => h.elim
  | _ :: _, [], h => h.elim

theorem pBlock_succ (f top : Nat) (ts : List Tok) :
    pBlock (f + 1) top ts = if top ≥ curCol ts then .reject else pList f (curCol ts) ts := rfl

theorem pList_succ (f top : Nat) (ts : List Tok) :
    pList (f + 1) top ts =
      match pStmt f top ts with
      | .reject => .reject
      | .fuel => .fuel
      | .ok s r =>
        if isEndOfBlock top (skipEOL r) then .ok [s] (skipEOL r)
        else match pList f top (skipEOL r) with
          | .ok ss r'' => .ok (s :: ss) r''
          | .reject => .reject
          | .fuel => .fuel := rfl

theorem pStmt_succ (f top : Nat) (ts : List Tok) :
    pStmt (f + 1) top ts =
      match (takeWords ts).2 with
      | ⟨.opener, _⟩ :: r' =>
        match pBlock f top (skipEOL r') with
        | .ok body r'' => .ok (.opn (takeWords ts).1 body) r''
        | .reject => .reject
        | .fuel => .fuel
      | r => if (takeWords ts).1.isEmpty then .reject else .ok (.line (takeWords ts).1) r := rfl

theorem pStmt_line {ws : List Nat} {ws' : List Tok} (hw : Words ws ws') (hne : ws ≠ []) {e : Tok} (he : e.k = .eol)
    (f top : Nat) (r : List Tok) : pStmt (f + 1) top (ws' ++ e :: r) = .ok (.line ws) (e :: r) := by
  obtain ⟨k, c⟩ := e
  cases (he : k = .eol)
  rw [pStmt_succ, takeWords_words (fun _ => K.noConfusion) _ _ hw]
  cases ws with
  | nil => exact absurd rfl hne
  | cons _ _ => rfl

theorem pStmt_opener {ws : List Nat} {ws' : List Tok} (hw : Words ws ws') (oc f top : Nat) (r : List Tok) :
    pStmt (f + 1) top (ws' ++ ⟨.opener, oc⟩ :: r) =
      match pBlock f top (skipEOL r) with
      | .ok body r'' => .ok (.opn ws body) r''
      | .reject => .reject
      | .fuel => .fuel := by
  rw [pStmt_succ, takeWords_words (fun _ => K.noConfusion) _ _ hw]

end Folang.Offside
