import Folang.Model.TypeExpr
/-
The defining equations of the Go rendering `toGo`, one per composite type constructor, for any number
of components, and those of the functions it is built from.
-/
namespace Folang.TypeExpr

theorem toGo_func (ts : List FT) : toGo (.func ts) = funcText (toGoList ts) (lastIsUnit ts) := rfl

theorem toGo_tuple (es : List FT) :
    toGo (.tuple es) = "frt.Tuple" ++ toString es.length ++ "[" ++ joinWith ", " (toGoList es) ++ "]" := rfl

theorem toGo_named (k n : String) (targs : List FT) : toGo (.named k n targs) = namedText n (toGoList targs) := rfl

theorem toGoList_nil : toGoList [] = [] := rfl

theorem toGoList_cons (t : FT) (ts : List FT) : toGoList (t :: ts) = toGo t :: toGoList ts := rfl

theorem toGoList_length : ∀ ts : List FT, (toGoList ts).length = ts.length
  | [] => rfl
  | _ :: ts => congrArg (· + 1) (toGoList_length ts)

theorem joinWith_one (sep s : String) : joinWith sep [s] = s := rfl

theorem joinWith_cons_cons (sep s t : String) (rest : List String) :
    joinWith sep (s :: t :: rest) = s ++ sep ++ joinWith sep (t :: rest) := rfl

end Folang.TypeExpr
