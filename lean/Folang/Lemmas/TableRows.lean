/-
Comparing a table regenerated from the repository with the table of a model when the two list the
same rows in different orders.
-/
namespace Folang.Lemmas

/-- `σ` says where each row of `A` stands in `B`: row `i` of `A` is row `σ[i]` of `B`.  Given `σ`,
the first hypothesis is an equality of two closed lists and the second speaks of numbers only, so
neither needs a comparison of rows to be decided. -/
theorem same_rows {β : Type} {A B : List β} (σ : List Nat) (h : A.map some = σ.map (B[·]?))
    (hσ : ∀ i, i < B.length → i ∈ σ) : (∀ r ∈ A, r ∈ B) ∧ (∀ r ∈ B, r ∈ A) := by
  constructor
  · intro r hr
    have : some r ∈ σ.map (B[·]?) := h ▸ List.mem_map_of_mem hr
    obtain ⟨i, _, hi⟩ := List.mem_map.1 this
    exact List.mem_of_getElem? hi
  · intro r hr
    obtain ⟨i, hi, rfl⟩ := List.getElem_of_mem hr
    have : some B[i] ∈ A.map some := h ▸ List.mem_map.2 ⟨i, hσ i hi, List.getElem?_eq_getElem hi⟩
    simpa using this

end Folang.Lemmas
