import Folang.Model.Literal
/-
Per-piece lemmas: every stage of the pipeline (fc scanner, ParseSInterP, Go unquote, Sprintf) maps
the image of one well-formed piece followed by ANY tail to its next image followed by the stage
applied to the tail.  `Lk…` is the lemma of stage k (1 scanner, 2 ParseSInterP, 3 Go unquote, 4 Sprintf),
`ik…` the image of a piece behind stage k.
-/
namespace Folang.Literal

def identByte (b : UInt8) : Bool :=
  (97 ≤ b && b ≤ 122) || (65 ≤ b && b ≤ 90) || (48 ≤ b && b ≤ 57) || b == 95

def pre (x : Bytes) (r : Except Err (Bytes × Bytes)) : Except Err (Bytes × Bytes) :=
  match r with
  | .ok (v, t) => .ok (x ++ v, t)
  | .error e => .error e

def pre2 (x : Bytes) (ns : List Bytes) (r : Except Err (Bytes × List Bytes)) : Except Err (Bytes × List Bytes) :=
  match r with
  | .ok (f, vs) => .ok (x ++ f, ns ++ vs)
  | .error e => .error e

/-- pieces of a "..." / $"..." body -/
def WFdq (interp : Bool) : Seg → Prop
  | .lit c => c ≠ DQ ∧ c ≠ BS ∧ (interp = true → c ≠ LBR)
  | .esc c => c = Ln ∨ c = Lt ∨ c = BS ∨ c = DQ
  | .brace c => interp = true ∧ (c = LBR ∨ c = RBR)
  | .hole n => interp = true ∧ ∀ b ∈ n, identByte b = true

/-- pieces of a `...` / $`...` body -/
def WFraw (interp : Bool) : Seg → Prop
  | .lit c => c ≠ BT ∧ (interp = true → c ≠ LBR)
  | .hole n => interp = true ∧ ∀ b ∈ n, identByte b = true
  | _ => False

/-- image after the fc scanner of a "..." body -/
def i1dq : Seg → Bytes
  | .lit c => if c = NL then [BS, Ln] else [c]
  | .esc c => [BS, c]
  | .brace c => [BS, c]
  | .hole n => LBR :: n ++ [RBR]

theorem ident_ne {b : UInt8} (h : identByte b = true) :
    b ≠ DQ ∧ b ≠ BS ∧ b ≠ NL ∧ b ≠ BT ∧ b ≠ RBR ∧ b ≠ LBR ∧ b ≠ PC := by
  refine ⟨?_, ?_, ?_, ?_, ?_, ?_, ?_⟩ <;> intro he <;> subst he <;> exact absurd h (by decide)

/-! ### one-step unfoldings (the definitions use nested patterns, so their equation lemmas are split) -/

theorem scanStr_lit (c : UInt8) (t : Bytes) (h1 : c ≠ DQ) (h2 : c ≠ BS) :
    scanStr (c :: t) = pre (if c = NL then [BS, Ln] else [c]) (scanStr t) := by
  rw [scanStr.eq_def]
  simp only [if_neg h1, if_neg h2]
  split <;> cases scanStr t <;> rfl
theorem scanStr_bs (c2 : UInt8) (t : Bytes) : scanStr (BS :: c2 :: t) = pre [BS, c2] (scanStr t) := by
  rw [scanStr, if_neg (by decide), if_pos rfl]
  cases scanStr t <;> rfl
theorem scanStr_dq (t : Bytes) : scanStr (DQ :: t) = .ok ([], t) := by
  cases t <;> simp [scanStr]

theorem scanRaw_cons (c : UInt8) (t : Bytes) (h : c ≠ BT) :
    scanRaw (c :: t) = pre (if c = BS then [BS, BS] else if c = DQ then [BS, DQ] else if c = NL then [BS, Ln] else [c])
      (scanRaw t) := by
  simp only [scanRaw, h, if_false]
  cases scanRaw t with
  | error e => rfl
  | ok p =>
    obtain ⟨v, r⟩ := p
    by_cases hb : c = BS
    · simp [pre, hb]
    · by_cases hd : c = DQ
      · subst hd; simp [pre, show DQ ≠ BS by decide]
      · by_cases hn : c = NL
        · subst hn; simp [pre, show NL ≠ BS by decide, show NL ≠ DQ by decide]
        · simp [pre, hb, hd, hn]
theorem scanRaw_bt (t : Bytes) : scanRaw (BT :: t) = .ok ([], t) := by simp [scanRaw]

theorem pre_pre (x y : Bytes) (r : Except Err (Bytes × Bytes)) : pre x (pre y r) = pre (x ++ y) r := by
  cases r with
  | error e => rfl
  | ok p => obtain ⟨v, t⟩ := p; simp [pre]

theorem pre_nil (r : Except Err (Bytes × Bytes)) : pre [] r = r := by
  cases r with
  | error e => rfl
  | ok p => obtain ⟨v, t⟩ := p; simp [pre]

theorem pre_ok {x : Bytes} {r : Except Err (Bytes × Bytes)} {v r' : Bytes} (h : pre x r = .ok (v, r')) :
    ∃ v0, r = .ok (v0, r') := by
  cases r with
  | error e => cases h
  | ok p =>
    cases h
    exact ⟨_, rfl⟩

theorem scanStr_ident (n : Bytes) (hn : ∀ b ∈ n, identByte b = true) (tail : Bytes) :
    scanStr (n ++ tail) = pre n (scanStr tail) := by
  induction n with
  | nil => simp [pre_nil]
  | cons b rest ih =>
    have hb := ident_ne (hn b List.mem_cons_self)
    rw [List.cons_append, scanStr_lit b _ hb.1 hb.2.1, if_neg hb.2.2.1, ih (fun x hx => hn x (List.mem_cons_of_mem _ hx)), pre_pre]
    rfl

theorem L1dq (interp : Bool) (s : Seg) (wf : WFdq interp s) (tail : Bytes) :
    scanStr (s.src ++ tail) = pre (i1dq s) (scanStr tail) := by
  cases s with
  | lit c => exact scanStr_lit c tail wf.1 wf.2.1
  | esc c => exact scanStr_bs c tail
  | brace c => exact scanStr_bs c tail
  | hole n =>
    obtain ⟨_, hn⟩ := wf
    simp only [Seg.src, List.cons_append, List.append_assoc, i1dq]
    rw [scanStr_lit LBR _ (by decide) (by decide), scanStr_ident n hn]
    simp only [List.nil_append]
    rw [scanStr_lit RBR _ (by decide) (by decide), pre_pre, pre_pre]
    simp [show LBR ≠ NL by decide, show RBR ≠ NL by decide]

def i2dq : Seg → Bytes
  | .lit c => if c = NL then [BS, Ln] else if c = PC then [PC, PC] else [c]
  | .esc c => [BS, c]
  | .brace c => [c]
  | .hole _ => [PC, Ls]

def holesOf : Seg → List Bytes
  | .hole n => [n]
  | _ => []

theorem pi_bs (f : Nat) (c2 : UInt8) (t : Bytes) :
    parseInterp (f + 1) (BS :: c2 :: t) =
      pre2 (if c2 = LBR ∨ c2 = RBR then [c2] else [BS, c2]) [] (parseInterp f t) := by
  simp only [parseInterp, if_true]
  cases parseInterp f t with
  | error e => rfl
  | ok p => obtain ⟨x, vs⟩ := p; by_cases h : c2 = LBR ∨ c2 = RBR <;> simp [pre2, h]

theorem pi_lit (f : Nat) (c : UInt8) (t : Bytes) (h1 : c ≠ BS) (h2 : c ≠ LBR) :
    parseInterp (f + 1) (c :: t) = pre2 (if c = PC then [PC, PC] else [c]) [] (parseInterp f t) := by
  rw [parseInterp.eq_def]
  simp only [if_neg h1, if_neg h2]
  split <;> cases parseInterp f t <;> rfl

theorem takeName_cons (c : UInt8) (r : Bytes) (h : c ≠ RBR) (hr : r ≠ []) :
    takeName (c :: r) = (match takeName r with
      | .ok (n, r') => .ok (c :: n, r')
      | .error e => .error e) := by
  cases r with
  | nil => exact absurd rfl hr
  | cons y ys => simp only [takeName, h, if_false]; rfl

theorem takeName_ident (n : Bytes) (hn : ∀ b ∈ n, identByte b = true) (t : Bytes) :
    takeName (n ++ RBR :: t) = .ok (n, t) := by
  induction n with
  | nil => cases t <;> simp [takeName]
  | cons b rest ih =>
    have hb := ident_ne (hn b List.mem_cons_self)
    have := ih (fun x hx => hn x (List.mem_cons_of_mem _ hx))
    rw [List.cons_append, takeName_cons b _ hb.2.2.2.2.1 (by simp), this]

theorem pi_hole (f : Nat) (n : Bytes) (hn : ∀ b ∈ n, identByte b = true) (t : Bytes) :
    parseInterp (f + 1) (LBR :: n ++ RBR :: t) = pre2 [PC, Ls] [n] (parseInterp f t) := by
  simp only [List.cons_append, parseInterp, show LBR ≠ BS by decide, show LBR ≠ PC by decide, if_false, if_true,
    takeName_ident n hn t]
  cases parseInterp f t with
  | error e => rfl
  | ok p => rfl

theorem L2dq (s : Seg) (wf : WFdq true s) (f : Nat) (tail : Bytes) :
    parseInterp (f + 1) (i1dq s ++ tail) = pre2 (i2dq s) (holesOf s) (parseInterp f tail) := by
  cases s with
  | lit c =>
    obtain ⟨h1, h2, h3⟩ := wf
    have h3 := h3 rfl
    by_cases hn : c = NL
    · subst hn
      exact pi_bs f Ln tail
    · simp only [i1dq, i2dq, holesOf, hn, if_false, List.cons_append, List.nil_append]
      exact pi_lit f c tail h2 h3
  | esc c =>
    have hc : ¬ (c = LBR ∨ c = RBR) := by
      rcases wf with h | h | h | h <;> subst h <;> decide
    simp only [i1dq, i2dq, holesOf, List.cons_append, List.nil_append]
    rw [pi_bs, if_neg hc]
  | brace c =>
    obtain ⟨_, hc⟩ := wf
    simp only [i1dq, i2dq, holesOf, List.cons_append, List.nil_append]
    rw [pi_bs, if_pos hc]
  | hole n =>
    obtain ⟨_, hn⟩ := wf
    simp only [i1dq, i2dq, holesOf, List.cons_append, List.append_assoc, List.nil_append]
    exact pi_hole f n hn tail

def i3 : Seg → Bytes
  | .lit c => if c = PC then [PC, PC] else [c]
  | .esc c => [escValue c]
  | .brace c => [c]
  | .hole _ => [PC, Ls]

theorem gu_esc (c2 : UInt8) (t : Bytes) (h : c2 = Ln ∨ c2 = Lt ∨ c2 = BS ∨ c2 = DQ) :
    goUnquote (BS :: c2 :: t) = (goUnquote t).map ([escValue c2] ++ ·) := by
  rw [goUnquote, if_pos rfl]
  rcases h with h | h | h | h <;> subst h <;> cases goUnquote t <;> rfl

theorem gu_other (c : UInt8) (t : Bytes) (h : c ≠ BS ∧ c ≠ DQ ∧ c ≠ NL) :
    goUnquote (c :: t) = (goUnquote t).map ([c] ++ ·) := by
  cases t <;> simp [goUnquote, h.1, h.2.1, h.2.2]

theorem map_map_cons (o : Option Bytes) (a b : UInt8) :
    (o.map ([b] ++ ·)).map ([a] ++ ·) = o.map ([a, b] ++ ·) := by cases o <;> rfl

theorem gu_two (a b : UInt8) (t : Bytes) (ha : a ≠ BS ∧ a ≠ DQ ∧ a ≠ NL) (hb : b ≠ BS ∧ b ≠ DQ ∧ b ≠ NL) :
    goUnquote (a :: b :: t) = (goUnquote t).map ([a, b] ++ ·) := by
  rw [gu_other a _ ha, gu_other b _ hb, map_map_cons]

theorem L3dq (s : Seg) (wf : WFdq true s) (tail : Bytes) :
    goUnquote (i2dq s ++ tail) = (goUnquote tail).map (i3 s ++ ·) := by
  cases s with
  | lit c =>
    obtain ⟨h1, h2, _⟩ := wf
    by_cases hn : c = NL
    · subst hn
      exact gu_esc Ln tail (Or.inl rfl)
    · by_cases hp : c = PC
      · subst hp
        exact gu_two PC PC tail (by decide) (by decide)
      · simp only [i2dq, i3, hn, hp, if_false, List.cons_append, List.nil_append]
        exact gu_other c tail ⟨h2, h1, hn⟩
  | esc c => exact gu_esc c tail wf
  | brace c =>
    obtain ⟨_, hc⟩ := wf
    rcases hc with hc | hc <;> subst hc <;> exact gu_other _ tail (by decide)
  | hole n => exact gu_two PC Ls tail (by decide) (by decide)

theorem L3plain_dq (env : Bytes → Bytes) (s : Seg) (wf : WFdq false s) (tail : Bytes) :
    goUnquote (i1dq s ++ tail) = (goUnquote tail).map (s.denote env ++ ·) := by
  cases s with
  | lit c =>
    obtain ⟨h1, h2, _⟩ := wf
    by_cases hn : c = NL
    · subst hn
      exact gu_esc Ln tail (Or.inl rfl)
    · simp only [i1dq, Seg.denote, hn, if_false, List.cons_append, List.nil_append]
      exact gu_other c tail ⟨h2, h1, hn⟩
  | esc c => exact gu_esc c tail wf
  | brace c => exact absurd wf.1 (by decide)
  | hole n => exact absurd wf.1 (by decide)

theorem sp_other (c : UInt8) (t : Bytes) (args : List Bytes) (h : c ≠ PC) :
    sprintf (c :: t) args = (sprintf t args).map ([c] ++ ·) := by
  cases t <;> simp [sprintf, h]

theorem sp_pcpc (t : Bytes) (args : List Bytes) :
    sprintf (PC :: PC :: t) args = (sprintf t args).map ([PC] ++ ·) := by
  simp [sprintf]

theorem sp_hole (t : Bytes) (a : Bytes) (args : List Bytes) :
    sprintf (PC :: Ls :: t) (a :: args) = (sprintf t args).map (a ++ ·) := by
  simp [sprintf, show Ls ≠ PC by decide]

/- `i3`, the holes and the denotation of a raw piece are those of its `dqOf` (`dqOf_same`), so stage 4 has ONE lemma
for both kinds of piece; `wf` only keeps `%` out of the escaped bytes -/
theorem L4 (env : Bytes → Bytes) (s : Seg) (wf : WFdq true s ∨ WFraw true s) (tail : Bytes) (args : List Bytes) :
    sprintf (i3 s ++ tail) ((holesOf s).map env ++ args) = (sprintf tail args).map (s.denote env ++ ·) := by
  cases s with
  | lit c =>
    by_cases hp : c = PC
    · subst hp
      exact sp_pcpc tail args
    · simp only [i3, Seg.denote, holesOf, hp, if_false, List.cons_append, List.nil_append, List.map_nil]
      exact sp_other c tail args hp
  | esc c =>
    have hc : c = Ln ∨ c = Lt ∨ c = BS ∨ c = DQ := by
      rcases wf with wf | wf
      · exact wf
      · exact wf.elim
    have : escValue c ≠ PC := by
      rcases hc with h | h | h | h <;> subst h <;> decide
    exact sp_other _ tail args this
  | brace c =>
    have hc : c = LBR ∨ c = RBR := by
      rcases wf with wf | wf
      · exact wf.2
      · exact wf.elim
    have : c ≠ PC := by rcases hc with h | h <;> subst h <;> decide
    exact sp_other _ tail args this
  | hole n => exact sp_hole tail (env n) args

/-- the piece of a "..." body that a raw piece has become behind the scanner, which writes the bytes `\`
and `"` as the escapes `\\` and `\"`: from there on a raw body is a "..." body, and the later stages treat it
as one -/
def dqOf : Seg → Seg
  | .lit c => if c = BS ∨ c = DQ then .esc c else .lit c
  | s => s

theorem dqOf_esc {c : UInt8} (h : c = BS ∨ c = DQ) : dqOf (.lit c) = .esc c := if_pos h
theorem dqOf_lit {c : UInt8} (h : ¬ (c = BS ∨ c = DQ)) : dqOf (.lit c) = .lit c := if_neg h

/-- image after the fc scanner of a raw body -/
def i1raw (s : Seg) : Bytes := i1dq (dqOf s)

def i2raw (s : Seg) : Bytes := i2dq (dqOf s)

theorem i1raw_lit (c : UInt8) :
    i1raw (.lit c) = if c = BS then [BS, BS] else if c = DQ then [BS, DQ] else if c = NL then [BS, Ln] else [c] := by
  unfold i1raw
  by_cases hb : c = BS
  · subst hb
    rfl
  · by_cases hd : c = DQ
    · subst hd
      rfl
    · rw [dqOf_lit (not_or.mpr ⟨hb, hd⟩), if_neg hb, if_neg hd]
      rfl

theorem scanRaw_ident (n : Bytes) (hn : ∀ b ∈ n, identByte b = true) (tail : Bytes) :
    scanRaw (n ++ tail) = pre n (scanRaw tail) := by
  induction n with
  | nil => simp [pre_nil]
  | cons b rest ih =>
    have hb := ident_ne (hn b List.mem_cons_self)
    rw [List.cons_append, scanRaw_cons b _ hb.2.2.2.1, ih (fun x hx => hn x (List.mem_cons_of_mem _ hx)), pre_pre]
    simp [hb.1, hb.2.1, hb.2.2.1]

theorem L1raw (interp : Bool) (s : Seg) (wf : WFraw interp s) (tail : Bytes) :
    scanRaw (s.src ++ tail) = pre (i1raw s) (scanRaw tail) := by
  cases s with
  | lit c =>
    rw [i1raw_lit]
    exact scanRaw_cons c tail wf.1
  | esc c => exact wf.elim
  | brace c => exact wf.elim
  | hole n =>
    obtain ⟨_, hn⟩ := wf
    simp only [Seg.src, List.cons_append, List.append_assoc, i1raw, dqOf, i1dq]
    rw [scanRaw_cons LBR _ (by decide), scanRaw_ident n hn]
    simp only [List.nil_append]
    rw [scanRaw_cons RBR _ (by decide), pre_pre, pre_pre]
    simp [show LBR ≠ BS by decide, show LBR ≠ DQ by decide, show LBR ≠ NL by decide,
      show RBR ≠ BS by decide, show RBR ≠ DQ by decide, show RBR ≠ NL by decide]

theorem WFraw.dqOf {interp : Bool} {s : Seg} (wf : WFraw interp s) : WFdq interp (dqOf s) := by
  cases s with
  | lit c =>
    by_cases h : c = BS ∨ c = DQ
    · rw [dqOf_esc h]
      exact .inr (.inr h)
    · rw [dqOf_lit h]
      exact ⟨fun e => h (.inr e), fun e => h (.inl e), wf.2⟩
  | esc c => exact wf.elim
  | brace c => exact wf.elim
  | hole n => exact wf

theorem dqOf_same (s : Seg) :
    holesOf (dqOf s) = holesOf s ∧ i3 (dqOf s) = i3 s ∧ ∀ env, (dqOf s).denote env = s.denote env := by
  cases s with
  | lit c =>
    by_cases h : c = BS ∨ c = DQ
    · rw [dqOf_esc h]
      rcases h with rfl | rfl <;> exact ⟨rfl, rfl, fun _ => rfl⟩
    · rw [dqOf_lit h]
      exact ⟨rfl, rfl, fun _ => rfl⟩
  | _ => exact ⟨rfl, rfl, fun _ => rfl⟩

theorem L2raw (s : Seg) (wf : WFraw true s) (f : Nat) (tail : Bytes) :
    parseInterp (f + 1) (i1raw s ++ tail) = pre2 (i2raw s) (holesOf s) (parseInterp f tail) :=
  (dqOf_same s).1 ▸ L2dq (dqOf s) wf.dqOf f tail

theorem L3raw (s : Seg) (wf : WFraw true s) (tail : Bytes) :
    goUnquote (i2raw s ++ tail) = (goUnquote tail).map (i3 s ++ ·) :=
  (dqOf_same s).2.1 ▸ L3dq (dqOf s) wf.dqOf tail

theorem L3plain_raw (env : Bytes → Bytes) (s : Seg) (wf : WFraw false s) (tail : Bytes) :
    goUnquote (i1raw s ++ tail) = (goUnquote tail).map (s.denote env ++ ·) :=
  (dqOf_same s).2.2 env ▸ L3plain_dq env (dqOf s) wf.dqOf tail

end Folang.Literal
