import Folang.Lemmas.SimAux
/-
Weakening: the closure of a partial application may mention function literals (lambdas, partial
applications of inert arguments).  They are evaluated when the closure is CALLED, in an environment
that has the closure's own parameters `_r…` in front of the captured one.  The values differ (they
capture a longer environment) but stay related to the source values.
-/
namespace Folang.Sem
variable {md : Bool}

def RExtras (X : GEnv) : Prop := ∀ q ∈ X, isRName q.1 = true

theorem ERel.rextras {env : Env} {genv : GEnv} (he : ERel md env genv) (X : GEnv) (hX : RExtras X) : ERel md env (X ++ genv) :=
  he.append_reserved X (fun q hq => isReserved_of_isRName (hX q hq))

theorem lookup_rextras {X genv : GEnv} (hX : RExtras X) {x : String} (hx : isRName x = false) :
    lookup (X ++ genv) x = lookup genv x := by
  apply lookup_append_left_none
  intro q hq heq
  have := hX q hq
  rw [heq, hx] at this
  cases this

/-- the same closure over an environment extended by `_r…` bindings (`RExtras`: the R of `weakR`, `atomsWeakR`) -/
def weakV (X : GEnv) : GVal → GVal
  | .clo ps b genv => .clo ps b (X ++ genv)
  | v => v

/-- the value of an atom in the extended environment -/
def atomWeak (X : GEnv) (e : GExpr) (gv : GVal) : GVal :=
  match e with
  | .funcLit _ _ => weakV X gv
  | _ => gv

def atomsWeak (X : GEnv) : List GExpr → List GVal → List GVal
  | e :: es, gv :: gvs => atomWeak X e gv :: atomsWeak X es gvs
  | _, _ => []

theorem atomWeak_pure {X : GEnv} {rs : List String} {e : GExpr} {gv : GVal} (h : isGPureFor rs e = true) :
    atomWeak X e gv = gv := by
  unfold atomWeak
  split
  · cases h
  · rfl

mutual
theorem VRel.weakR {X : GEnv} (hX : RExtras X) : ∀ {v : SVal} {gv : GVal}, VRel md v gv → VRel md v (weakV X gv)
  | _, _, .fo x => .fo x
  | _, _, .clo hw he => .clo hw (he.rextras X hX)
  | _, _, .pap (ges := ges) (k := k) hlt hga hvs hall =>
    have h := VRels.atomsWeakR hX k ges hvs hga hall
    .pap (k := k) hlt h.1 h.2 hall
theorem VRels.atomsWeakR {X : GEnv} (hX : RExtras X) (k : Nat) {rs : List String} {genv : GEnv} :
    ∀ (ges : List GExpr) {vs : List SVal} {gvs : List GVal}, VRels md vs gvs →
      optList (gpureEvalN k genv) ges = some gvs → isGAtomL rs ges = true →
      optList (gpureEvalN k (X ++ genv)) ges = some (atomsWeak X ges gvs) ∧ VRels md vs (atomsWeak X ges gvs)
  | [], _, _, .nil, _, _ => ⟨rfl, .nil⟩
  | [], _, _, .cons _ _, h, _ => by cases h
  | e :: es, _, _, .nil, h, _ => by
    obtain ⟨_, _, _, _, h⟩ := optList_cons_eq_some.mp h
    cases h
  | e :: es, _, _, .cons (gv := gv) (gvs := gvs) hv hvs, h, hall => by
    have hall := Bool.and_eq_true_iff.mp hall
    obtain ⟨gv0, gvs0, he, hes, heq⟩ := optList_cons_eq_some.mp h
    cases heq
    have ih := VRels.atomsWeakR hX k es hvs hes hall.2
    rw [atomsWeak, optList_cons_eq_some]
    obtain ⟨ps, b, rfl⟩ | hp := isGAtom_cases hall.1
    · cases k with
      | zero => cases he
      | succ k' =>
        cases he
        exact ⟨⟨_, _, rfl, ih.1, rfl⟩, .cons (VRel.weakR hX hv) ih.2⟩
    · rw [atomWeak_pure hp]
      exact ⟨⟨_, _, (gpure_weaken (fun _ _ hx => lookup_rextras hX hx) k e hp).trans he, ih.1, rfl⟩, .cons hv ih.2⟩
end

theorem rextras_call (n : Nat) (gargs : List GVal) : RExtras (((restNames n).zip gargs).reverse) :=
  fun _ hq => isRName_of_mem_restNames (List.of_mem_zip (List.mem_reverse.mp hq)).1

/-- at `k + 1` because `evalList_rest_vars` has the closure's own parameters at a successor fuel and
`evalList_append` joins the two halves of the argument list under ONE evaluator -/
theorem geval_atoms (GP : GProg) (n : Nat) (gargs : List GVal) (genv : GEnv) (k : Nat) :
    ∀ (ges : List GExpr) {vs : List SVal} {gvs : List GVal}, VRels md vs gvs →
      optList (gpureEvalN k genv) ges = some gvs → isGAtomL (restNames n) ges = true →
      ∃ gvs', evalList (gevalN GP (k + 1)).expr (((restNames n).zip gargs).reverse ++ genv) ges = some ([], gvs') ∧
        VRels md vs gvs' := by
  intro ges vs gvs hv h hall
  obtain ⟨h1, h2⟩ := VRels.atomsWeakR (rextras_call n gargs) k ges hv h hall
  exact ⟨_, g_lift_list (Nat.le_succ k) (gpure_sound_list GP h1 hall), h2⟩

end Folang.Sem
