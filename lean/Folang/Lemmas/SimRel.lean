import Folang.Sem.Lower
import Std.Data.String.ToNat
/-
The simulation relation between source values / environments and Go-core values / environments, the
well-formedness predicate on source programs, their basic lemmas, and what the proofs need to know
of the names the compiler makes up (`_pN`, `_rN`).
-/
namespace Folang.Sem

def isSilentPrim : Prim → Bool
  | .println => false
  | .printf1 => false
  | _ => true

/- an effect-free argument of a partial application: built from literals, variables that the
closure's parameters `rs` do not capture, and output-free primitives (constructors, operators, …).
(With an effectful argument expression the lowering that keeps it inside the closure is NOT faithful,
Props/C01.papp_effects_late: defect D9, repaired in fc by 9abc13f, still tinyfo's behaviour.) -/
mutual
def isPureFor (rs : List String) : Expr → Bool
  | .lit _ => true
  | .var x => !rs.contains x
  | .prim p args => isSilentPrim p && isPureForL rs args
  | _ => false
def isPureForL (rs : List String) : List Expr → Bool
  | [] => true
  | e :: es => isPureFor rs e && isPureForL rs es
end

/-- the parameters the compiler makes up for the closure of a partial application: `_r…` -/
def isRName (x : String) : Bool :=
  match x.toList with
  | '_' :: 'r' :: _ => true
  | _ => false

/-- names the compiler makes up: `_p…` (bindings of evaluated given arguments) and `_r…` -/
def isReserved (x : String) : Bool :=
  match x.toList with
  | '_' :: 'p' :: _ => true
  | '_' :: 'r' :: _ => true
  | _ => false

mutual
def wfE (bind : Bool) : Expr → Bool
  | .lit _ => true
  | .var x => !isReserved x
  | .prim _ args => wfL bind args
  | .and a b => wfE bind a && wfE bind b
  | .or a b => wfE bind a && wfE bind b
  | .ite c t f => wfE bind c && wfB bind t && wfB bind f
  | .call _ arity args =>
    wfL bind args &&
      (if args.length < arity then
        (if bind then true
         else isPureForL (restNames (arity - args.length)) args)
       else true)
  | .callv f args => wfE bind f && wfL bind args
  | .lam _ b => wfB bind b
  | .pipe a f => wfE bind a && wfE bind f
  | .hof _ f args => wfE bind f && wfL bind args
  | .matchE t arms => wfE bind t && wfArms bind arms
  | .matchSE t arms => wfE bind t && wfSArms bind arms
def wfL (bind : Bool) : List Expr → Bool
  | [] => true
  | e :: es => wfE bind e && wfL bind es
def wfB (bind : Bool) : Body → Bool
  | .mk ss tail => wfSs bind ss && wfT bind tail
def wfT (bind : Bool) : Tail → Bool
  | .ret e => wfE bind e
  | .matchT t arms => wfE bind t && wfArms bind arms
  | .matchST t arms => wfE bind t && wfSArms bind arms
def wfSs (bind : Bool) : List Stmt → Bool
  | [] => true
  | s :: ss => wfS bind s && wfSs bind ss
def wfS (bind : Bool) : Stmt → Bool
  | .let1 _ e => wfE bind e
  | .let2 _ _ e => wfE bind e
  | .exec e => wfE bind e
  | .ifonly c b => wfE bind c && wfB bind b
def wfArms (bind : Bool) : List Arm → Bool
  | [] => true
  | .mk _ _ b :: rest => wfB bind b && wfArms bind rest
def wfSArms (bind : Bool) : List SArm → Bool
  | [] => true
  | .mk _ b :: rest => wfB bind b && wfSArms bind rest
end

theorem wfE_call {bind : Bool} {f : String} {arity : Nat} {args : List Expr} (h : wfE bind (.call f arity args) = true) :
    wfL bind args = true ∧
      (bind = false → args.length < arity → isPureForL (restNames (arity - args.length)) args = true) := by
  rw [wfE, Bool.and_eq_true] at h
  refine ⟨h.1, fun hb hlt => ?_⟩
  simpa [hb, hlt] using h.2

def wfProg (bind : Bool) (P : Prog) : Prop := ∀ d ∈ P, wfB bind d.body = true

/-- the decision procedure the oracle runs on every program -/
def wfProgB (bind : Bool) (P : Prog) : Bool := P.all (fun d => wfB bind d.body)

theorem wfProgB_iff (bind : Bool) (P : Prog) : wfProgB bind P = true ↔ wfProg bind P := by
  simp [wfProgB, wfProg, List.all_eq_true]

def optList {α β : Type} (f : α → Option β) : List α → Option (List β)
  | [] => some []
  | e :: es => match f e, optList f es with
    | some v, some vs => some (v :: vs)
    | _, _ => none

/-- evaluation of the (lowered) inert given arguments of a partial application in the closure's
environment (a function literal evaluates to a closure over it); the fuel `k` bounds the nesting depth -/
def gpureEvalN : Nat → GEnv → GExpr → Option GVal
  | 0, _, _ => none
  | _ + 1, _, .lit l => some (.fo (.lit l))
  | _ + 1, genv, .var x => lookup genv x
  | k + 1, genv, .prim p args =>
    match optList (gpureEvalN k genv) args with
    | some vs =>
      match gtoFOs vs with
      | some fos => (primFO p fos).map (fun r => GVal.fo r.2)
      | none => none
    | none => none
  | _ + 1, genv, .funcLit ps b => some (.clo ps b genv)
  | _ + 1, _, _ => none

mutual
def isGPureFor (rs : List String) : GExpr → Bool
  | .lit _ => true
  | .var x => !rs.contains x && !isRName x
  | .prim p args => isSilentPrim p && isGPureForL rs args
  | _ => false
def isGPureForL (rs : List String) : List GExpr → Bool
  | [] => true
  | e :: es => isGPureFor rs e && isGPureForL rs es
end

/-- what the closure of a partial application mentions for a given argument: a pure first-order
expression (literal, variable, bound `_p…`, field of a variable) or a function literal (a lambda or a
partial application of inert arguments, which only builds a closure) -/
def isGAtom (rs : List String) : GExpr → Bool
  | .funcLit _ _ => true
  | e => isGPureFor rs e
def isGAtomL (rs : List String) : List GExpr → Bool
  | [] => true
  | e :: es => isGAtom rs e && isGAtomL rs es

theorem isGPureForL_iff {rs : List String} : ∀ {es : List GExpr}, isGPureForL rs es = true ↔ ∀ e ∈ es, isGPureFor rs e = true
  | [] => by simp [isGPureForL]
  | e :: es => by simp [isGPureForL, isGPureForL_iff (es := es)]

theorem isGAtomL_iff {rs : List String} : ∀ {es : List GExpr}, isGAtomL rs es = true ↔ ∀ e ∈ es, isGAtom rs e = true
  | [] => by simp [isGAtomL]
  | e :: es => by simp [isGAtomL, isGAtomL_iff (es := es)]

theorem isGAtom_cases {rs : List String} {e : GExpr} (h : isGAtom rs e = true) :
    (∃ ps b, e = .funcLit ps b) ∨ isGPureFor rs e = true := by
  unfold isGAtom at h
  split at h
  · exact .inl ⟨_, _, rfl⟩
  · exact .inr h

theorem isGAtom_of_pure {rs : List String} {e : GExpr} (h : isGPureFor rs e = true) : isGAtom rs e = true := by
  unfold isGAtom
  split
  · rfl
  · exact h

theorem isGAtomL_of_pure {rs : List String} {es : List GExpr} (h : isGPureForL rs es = true) : isGAtomL rs es = true :=
  isGAtomL_iff.mpr (fun e he => isGAtom_of_pure (isGPureForL_iff.mp h e he))

mutual
inductive VRel (bind : Bool) : SVal → GVal → Prop where
  | fo (v : FO) : VRel bind (.fo v) (.fo v)
  | clo {ps : List String} {b : Body} {env : Env} {genv : GEnv} :
      wfB bind b = true → ERel bind env genv → VRel bind (.clo ps b env) (.clo ps (lowerB bind b) genv)
  /- `ges` is what the closure evaluates again at every call.  The depth `k` is existential: only that `gpureEvalN`
  reaches related values matters, the fuel of `gevalN` is found from it at the call.  Atoms, because evaluating them again
  must print nothing (silent) and must give related values below the closure's own parameters (no `_r…` mentioned). -/
  | pap {f : String} {arity : Nat} {vs : List SVal} {ges : List GExpr} {gvs : List GVal} {genv : GEnv} :
      {k : Nat} → vs.length < arity → optList (gpureEvalN k genv) ges = some gvs → VRels bind vs gvs →
      isGAtomL (restNames (arity - vs.length)) ges = true →
      VRel bind (.pap f arity vs)
        (.clo (restNames (arity - vs.length))
          (.mk [] (.ret (.callFn f (ges ++ (restNames (arity - vs.length)).map GExpr.var)))) genv)
inductive VRels (bind : Bool) : List SVal → List GVal → Prop where
  | nil : VRels bind [] []
  | cons {v : SVal} {gv : GVal} {vs : List SVal} {gvs : List GVal} : VRel bind v gv → VRels bind vs gvs → VRels bind (v :: vs) (gv :: gvs)
/-- related environments; the Go-core side may hold extra bindings of reserved names (the `_p…` of
evaluated given arguments), which no source variable refers to -/
inductive ERel (bind : Bool) : Env → GEnv → Prop where
  | nil : ERel bind [] []
  | cons {x : String} {v : SVal} {gv : GVal} {env : Env} {genv : GEnv} :
      VRel bind v gv → ERel bind env genv → ERel bind ((x, v) :: env) ((x, gv) :: genv)
  | extra {y : String} {gv : GVal} {env : Env} {genv : GEnv} :
      isReserved y = true → ERel bind env genv → ERel bind env ((y, gv) :: genv)
end

variable {bind : Bool}

theorem VRel.toFO {v : SVal} {gv : GVal} (h : VRel bind v gv) : v.toFO = gv.toFO := by
  cases h <;> rfl

theorem VRels.length {vs : List SVal} {gvs : List GVal} (h : VRels bind vs gvs) : vs.length = gvs.length := by
  induction vs generalizing gvs with
  | nil => cases h; rfl
  | cons v vs ih => cases h with | cons _ ht => simp [ih ht]

theorem VRels.toFOs {vs : List SVal} {gvs : List GVal} (h : VRels bind vs gvs) : toFOs vs = gtoFOs gvs := by
  induction vs generalizing gvs with
  | nil => cases h; rfl
  | cons v vs ih =>
    cases h with
    | cons hv ht =>
      rename_i gv gvs
      simp only [Folang.Sem.toFOs, gtoFOs, hv.toFO, ih ht]
      cases gv.toFO <;> cases gtoFOs gvs <;> rfl

theorem VRels.append {as : List SVal} {gas : List GVal} {bs : List SVal} {gbs : List GVal}
    (h1 : VRels bind as gas) (h2 : VRels bind bs gbs) : VRels bind (as ++ bs) (gas ++ gbs) := by
  induction as generalizing gas with
  | nil => cases h1; exact h2
  | cons a as ih => cases h1 with | cons hv ht => exact .cons hv (ih ht)

theorem lookup_cons {α : Type} {y x : String} {a : α} {l : List (String × α)} :
    lookup ((y, a) :: l) x = if y == x then some a else lookup l x := by
  cases h : y == x <;> simp [lookup, h]

theorem ERel.lookup {env : Env} {genv : GEnv} (h : ERel bind env genv) {x : String} {v : SVal}
    (hx : isReserved x = false) (hl : lookup env x = some v) : ∃ gv, lookup genv x = some gv ∧ VRel bind v gv := by
  induction genv generalizing env with
  | nil =>
    cases h
    simp [Folang.Sem.lookup] at hl
  | cons q genv ih =>
    cases h with
    | cons hv he =>
      rename_i y v' gv' env'
      by_cases hxy : (y == x) = true
      · rw [lookup_cons, if_pos hxy] at hl ⊢
        cases hl
        exact ⟨gv', rfl, hv⟩
      · rw [lookup_cons, if_neg hxy] at hl ⊢
        exact ih he hl
    | extra hr he =>
      rename_i y gv'
      have hxy : ¬ (y == x) = true := fun hyx => by
        rw [beq_iff_eq.mp hyx, hx] at hr
        cases hr
      rw [lookup_cons, if_neg hxy]
      exact ih he hl

theorem ERel.call : ∀ {ps : List String} {vs : List SVal} {gvs : List GVal} {env : Env} {genv : GEnv},
    VRels bind vs gvs → ERel bind env genv → ERel bind ((ps.zip vs).reverse ++ env) ((ps.zip gvs).reverse ++ genv) := by
  intro ps
  induction ps with
  | nil => intro vs gvs env genv _ he; simpa using he
  | cons p ps ih =>
    intro vs gvs env genv h he
    cases h with
    | nil => simpa using he
    | cons hv ht =>
      simp only [List.zip_cons_cons, List.reverse_cons, List.append_assoc, List.singleton_append]
      exact ih ht (.cons hv he)

theorem ERel.append_reserved {env : Env} {genv : GEnv} (he : ERel bind env genv) :
    ∀ (X : GEnv), (∀ q ∈ X, isReserved q.1 = true) → ERel bind env (X ++ genv)
  | [], _ => he
  | (y, gv) :: X, hX =>
    .extra (hX (y, gv) List.mem_cons_self) (he.append_reserved X (fun q hq => hX q (List.mem_cons_of_mem _ hq)))

theorem VRels.fo (xs : List FO) : VRels bind (xs.map SVal.fo) (xs.map GVal.fo) := by
  induction xs with
  | nil => exact .nil
  | cons x xs ih => exact .cons (.fo x) ih

theorem isReserved_of_isRName {x : String} (h : isRName x = true) : isReserved x = true := by
  unfold isRName at h
  unfold isReserved
  split at h
  · rename_i heq; simp [heq]
  · cases h

theorem isRName_of_not_reserved {x : String} (h : isReserved x = false) : isRName x = false := by
  cases hr : isRName x with
  | false => rfl
  | true => rw [isReserved_of_isRName hr] at h; cases h

theorem toString_prefix_inj (p : String) {i j : Nat} (h : p ++ toString i = p ++ toString j) : i = j := by
  have := congrArg String.toList h
  simp only [String.toList_append] at this
  exact Nat.repr_inj.mp (String.ext (List.append_cancel_left this))

theorem restNames_length (n : Nat) : (restNames n).length = n := by simp [restNames]

theorem restNames_nodup (n : Nat) : (restNames n).Nodup := by
  unfold restNames
  refine List.Pairwise.map _ ?_ List.nodup_range
  intro i j hij h
  exact hij (toString_prefix_inj "_r" h)

theorem isRName_restName (i : Nat) : isRName ("_r" ++ toString i) = true := by
  simp [isRName, String.toList_append]

theorem isRName_of_mem_restNames {x : String} {n : Nat} (h : x ∈ restNames n) : isRName x = true := by
  simp only [restNames, List.mem_map, List.mem_range] at h
  obtain ⟨i, _, rfl⟩ := h
  exact isRName_restName i

theorem restNames_not_contains {x : String} (h : isRName x = false) (m : Nat) : (restNames m).contains x = false := by
  cases hc : (restNames m).contains x with
  | false => rfl
  | true =>
    rw [isRName_of_mem_restNames (List.contains_iff_mem.mp hc)] at h
    cases h

theorem pName_toList (i : Nat) : (pName i).toList = '_' :: 'p' :: (toString i).toList := by
  simp [pName, String.toList_append]

theorem isReserved_pName (i : Nat) : isReserved (pName i) = true := by
  simp [isReserved, pName_toList]

theorem isRName_pName (i : Nat) : isRName (pName i) = false := by
  simp [isRName, pName_toList]

theorem pName_inj {i j : Nat} (h : pName i = pName j) : i = j :=
  toString_prefix_inj "_p" h

theorem pName_not_rest (i n : Nat) : (restNames n).contains (pName i) = false :=
  restNames_not_contains (isRName_pName i) n

end Folang.Sem
