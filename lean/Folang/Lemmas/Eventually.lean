/-
"For every large enough fuel": the form in which fuel-indexed statements compose.  Two such facts have a
common bound (`and`), so no proof that goes through these lemmas chooses a bound.
-/
namespace Folang

/-- `Eventually p` unfolds to exactly the `∃ N, ∀ f, N ≤ f → p f` that the statements about fuel spell out, so the
lemmas apply to them as they stand. -/
def Eventually (p : Nat → Prop) : Prop := ∃ N, ∀ f, N ≤ f → p f

theorem Eventually.step {p q : Nat → Prop} (h : Eventually p) (hpq : ∀ f, p f → q (f + 1)) : Eventually q :=
  let ⟨N, hN⟩ := h
  ⟨N + 1, fun
    | 0, hf => absurd hf (Nat.not_succ_le_zero N)
    | f + 1, hf => hpq f (hN f (Nat.le_of_succ_le_succ hf))⟩

theorem Eventually.of_succ {p : Nat → Prop} (h : ∀ f, p (f + 1)) : Eventually p :=
  Eventually.step ⟨0, fun _ _ => trivial⟩ fun f _ => h f

theorem Eventually.and {p q : Nat → Prop} (hp : Eventually p) (hq : Eventually q) : Eventually fun f => p f ∧ q f :=
  let ⟨N₁, h₁⟩ := hp
  let ⟨N₂, h₂⟩ := hq
  ⟨max N₁ N₂, fun f hf =>
    ⟨h₁ f (Nat.le_trans (Nat.le_max_left ..) hf), h₂ f (Nat.le_trans (Nat.le_max_right ..) hf)⟩⟩

end Folang
