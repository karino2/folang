import Folang.Lemmas.OffsideParse
import Folang.Lemmas.Eventually
/-
C06: every layout of a block structure is read back as that block structure (helper lemmas and the
mutual induction; the property theorems are in Props/C06Block.lean)
-/
namespace Folang.Offside

/-- what may follow a statement of a block at column `c`: end of input, or a token that is not an
end of line at column `c` (the next statement) or left of it (the block ends) -/
def Follow (c : Nat) (rest : List Tok) : Prop :=
  ∃ t r, rest = t :: r ∧ t.k ≠ .eol ∧ (t.k = .eof ∨ t.col ≤ c)

theorem Ends.follow {c : Nat} {rest : List Tok} (h : Ends c rest) : Follow c rest := by
  obtain ⟨t, r, e, hk, hc⟩ := h
  exact ⟨t, r, e, hk, hc.imp id Nat.le_of_lt⟩

theorem Follow.ends {c c' : Nat} {rest : List Tok} (h : Follow c rest) (hc : c < c') : Ends c' rest := by
  obtain ⟨t, r, e, hk, h2⟩ := h
  exact ⟨t, r, e, hk, h2.imp id (fun h => Nat.lt_of_le_of_lt h hc)⟩

theorem Follow.skip {c : Nat} {rest : List Tok} (h : Follow c rest) : skipEOL rest = rest := by
  obtain ⟨t, r, e, hk, _⟩ := h
  subst e
  exact skipEOL_noneol hk r

theorem Ends.isEnd {c : Nat} {rest : List Tok} (h : Ends c rest) : isEndOfBlock c rest = true := by
  obtain ⟨t, r, e, _, h2⟩ := h
  subst e
  obtain ⟨k, col⟩ := t
  rcases h2 with h2 | h2
  · simp only at h2; subst h2; simp [isEndOfBlock, isEOF]
  · simp only at h2; simp [isEndOfBlock, curCol, h2]

/-- how every word run, head, statement and block of a layout at `c` begins -/
def StartsAt (c : Nat) (toks : List Tok) : Prop :=
  ∃ t r, toks = t :: r ∧ t.col = c ∧ ((∃ n, t.k = .word n) ∨ t.k = .opener)

theorem StartsAt.append {c : Nat} {a : List Tok} (h : StartsAt c a) (b : List Tok) : StartsAt c (a ++ b) := by
  obtain ⟨t, r, e, h1, h2⟩ := h
  exact ⟨t, r ++ b, by rw [e]; rfl, h1, h2⟩

theorem words_starts {c : Nat} : ∀ {ws : List Nat} {ws' : List Tok}, ws ≠ [] → Words ws ws' → curCol ws' = c →
    StartsAt c ws'
  | [], _, h, _, _ => absurd rfl h
  | w :: _, t :: ts, _, hw, hc => ⟨t, ts, rfl, hc, Or.inl ⟨w, hw.1⟩⟩
  | _ :: _, [], _, hw, _ => hw.elim

theorem head_starts {c : Nat} {ws : List Nat} {hd : List Tok} (h : Head c ws hd) : StartsAt c hd := by
  obtain ⟨ws', oc, hw, e, hc⟩ := h
  cases ws with
  | nil =>
    cases ws' with
    | nil => subst e; exact ⟨_, [], rfl, hc, Or.inr rfl⟩
    | cons _ _ => exact hw.elim
  | cons w ws =>
    cases ws' with
    | nil => exact hw.elim
    | cons t ts =>
      subst e
      exact ⟨t, ts ++ [⟨.opener, oc⟩], rfl, hc, Or.inl ⟨w, hw.1⟩⟩

theorem lstmt_starts {c : Nat} : ∀ (t : T) {toks : List Tok}, LStmt c t toks → StartsAt c toks
  | .line _, _, h => by
    -- `obtain` unfolds `LStmt` on a constructor by itself; `simp only [LStmt]` would make Lean derive
    -- the equation lemmas of the nested recursion first, which is slow
    obtain ⟨ws', es, hne, hw, hc, _, _, rfl⟩ := h
    exact (words_starts hne hw hc).append es
  | .opn _ _, _, h => by
    obtain ⟨hd, es, c', bt, hh, _, _, _, rfl⟩ := h
    exact ((head_starts hh).append es).append bt

theorem lblock_starts {c : Nat} : ∀ (ts : List T) {toks : List Tok}, LBlock c ts toks → StartsAt c toks
  | [], _, h => h.elim
  | [t], _, h => lstmt_starts t h
  | t :: _ :: _, _, h => by
    obtain ⟨a, b, ha, _, rfl⟩ := h
    exact (lstmt_starts t ha).append b

theorem StartsAt.follow {c : Nat} {toks : List Tok} (h : StartsAt c toks) : Follow c toks := by
  obtain ⟨t, r, e, h1, h2⟩ := h
  refine ⟨t, r, e, ?_, Or.inr (Nat.le_of_eq h1)⟩
  rcases h2 with ⟨n, h2⟩ | h2 <;> rw [h2] <;> intro hc <;> cases hc

theorem StartsAt.notEnd {c : Nat} {toks : List Tok} (h : StartsAt c toks) : isEndOfBlock c toks = false := by
  obtain ⟨t, r, e, h1, h2⟩ := h
  subst e
  obtain ⟨k, col⟩ := t
  simp only at h1 h2
  subst h1
  rcases h2 with ⟨n, h2⟩ | h2 <;> subst h2 <;> simp [isEndOfBlock, curCol, isEOF]

theorem StartsAt.curCol {c : Nat} {toks : List Tok} (h : StartsAt c toks) : curCol toks = c := by
  obtain ⟨t, r, e, h1, _⟩ := h
  subst e; exact h1

theorem pBlock_of_pList {c top : Nat} {toks : List Tok} (hst : StartsAt c toks) (htop : top < c) (f : Nat) :
    pBlock (f + 1) top toks = pList f c toks := by
  rw [pBlock_succ, hst.curCol, if_neg (Nat.not_le.mpr htop)]

mutual
theorem pStmt_lays : ∀ (t : T) (c : Nat) (toks rest : List Tok), LStmt c t toks → Follow c rest →
    ∃ N, ∀ f, N ≤ f → ∃ r, pStmt f c (toks ++ rest) = .ok t r ∧ skipEOL r = rest
  | .line ws, c, toks, rest, h, hf => by
    obtain ⟨ws', es, hne, hw, _, hes, hesne, rfl⟩ := h
    cases es with
    | nil => exact absurd rfl hesne
    | cons e es =>
      refine Eventually.of_succ fun f => ⟨e :: es ++ rest, ?_, (skipEOL_allEol hes rest).trans hf.skip⟩
      rw [List.append_assoc, List.cons_append, pStmt_line hw hne (hes e (List.mem_cons_self ..))]
  | .opn ws body, c, toks, rest, h, hf => by
    obtain ⟨_, es, c', bt, ⟨ws', oc, hw, rfl, _⟩, hes, hcc, hb, rfl⟩ := h
    have hst := (lblock_starts body hb).append rest
    have hB : Eventually fun f => pBlock f c (bt ++ rest) = .ok body rest :=
      Eventually.step (pList_lays body c' bt rest hb (hf.ends hcc)) fun f h => (pBlock_of_pList hst hcc f).trans h
    refine hB.step fun f h => ⟨rest, ?_, hf.skip⟩
    rw [List.append_assoc, List.append_assoc, List.append_assoc, List.singleton_append, pStmt_opener hw,
      skipEOL_allEol hes, hst.follow.skip, h]
theorem pList_lays : ∀ (ts : List T) (c : Nat) (toks rest : List Tok), LBlock c ts toks → Ends c rest →
    ∃ N, ∀ f, N ≤ f → pList f c (toks ++ rest) = .ok ts rest
  | [], _, _, _, h, _ => h.elim
  | [t], c, toks, rest, h, he =>
    Eventually.step (pStmt_lays t c toks rest h he.follow) fun f ⟨r, hr, hs⟩ => by
      rw [pList_succ, hr]
      simp only [hs, he.isEnd, if_true]
  | t :: t2 :: ts, c, toks, rest, h, he => by
    obtain ⟨a, b, ha, hb, rfl⟩ := h
    have hst := (lblock_starts (t2 :: ts) hb).append rest
    refine Eventually.step (Eventually.and (pStmt_lays t c a (b ++ rest) ha hst.follow) (pList_lays (t2 :: ts) c b rest hb he))
      fun f ⟨⟨r, hr, hs⟩, h2⟩ => ?_
    rw [List.append_assoc, pList_succ, hr]
    simp only [hs, hst.notEnd, h2]
    rfl
end

end Folang.Offside
