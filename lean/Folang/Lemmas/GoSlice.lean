import Folang.Model.GoSlice
/-
Helper lemmas for the Go slice heap model: validity, frame (`Ext`), freshness, what re-slicing and
`append` do to a valid slice, and a Hoare-style rule for the index loops.
-/
namespace Folang.GoSlice
variable {α : Type}

/-- the slice header points into the heap and is within its array -/
def Valid (h : Heap α) : Slice → Prop
  | .nil => True
  | .mk a o l c => a < h.length ∧ l ≤ c ∧ o + c ≤ (arrOf h a).length

/-- `h'` extends `h`: at least as many arrays, and arrays below `n` are unchanged -/
def AgreeBelow (n : Nat) (h h' : Heap α) : Prop :=
  h.length ≤ h'.length ∧ ∀ a, a < n → arrOf h' a = arrOf h a

/-- `h'` is `h` plus new arrays; no existing array changed -/
def Ext (h h' : Heap α) : Prop := AgreeBelow h.length h h'

/-- the slice is nil or lives in an array allocated at or after `n` -/
def Fresh (n : Nat) : Slice → Prop
  | .nil => True
  | .mk a _ _ _ => n ≤ a

theorem AgreeBelow.refl (n : Nat) (h : Heap α) : AgreeBelow n h h := ⟨Nat.le_refl _, fun _ _ => rfl⟩

theorem AgreeBelow.trans {n : Nat} {h1 h2 h3 : Heap α} (a : AgreeBelow n h1 h2) (b : AgreeBelow n h2 h3) :
    AgreeBelow n h1 h3 :=
  ⟨Nat.le_trans a.1 b.1, fun x hx => (b.2 x hx).trans (a.2 x hx)⟩

theorem AgreeBelow.mono {n m : Nat} {h h' : Heap α} (a : AgreeBelow n h h') (hm : m ≤ n) : AgreeBelow m h h' :=
  ⟨a.1, fun x hx => a.2 x (Nat.lt_of_lt_of_le hx hm)⟩

theorem Ext.refl (h : Heap α) : Ext h h := AgreeBelow.refl _ _

theorem Ext.trans {h1 h2 h3 : Heap α} (a : Ext h1 h2) (b : Ext h2 h3) : Ext h1 h3 :=
  AgreeBelow.trans a (b.mono a.1)

theorem arrOf_append_left (h : Heap α) (x : List (List α)) {a : Nat} (ha : a < h.length) :
    arrOf (h ++ x) a = arrOf h a := by
  simp [arrOf, List.getD, List.getElem?_append_left ha]

theorem arrOf_append_length (h : Heap α) (x : List α) : arrOf (h ++ [x]) h.length = x := by
  simp [arrOf, List.getD]

theorem arrOf_set_ne (h : Heap α) {a b : Nat} (x : List α) (hab : a ≠ b) : arrOf (h.set a x) b = arrOf h b := by
  simp [arrOf, List.getD, List.getElem?_set_ne hab]

theorem arrOf_set_eq (h : Heap α) {a : Nat} (x : List α) (ha : a < h.length) : arrOf (h.set a x) a = x := by
  simp [arrOf, List.getD, List.getElem?_set_self ha]

theorem Valid.arr_lt {h : Heap α} {a o l c : Nat} (v : Valid h (.mk a o l c)) : a < h.length := v.1

theorem read_ext {h h' : Heap α} (e : Ext h h') {s : Slice} (v : Valid h s) : read h' s = read h s := by
  cases s with
  | nil => rfl
  | mk a o l c => rw [read, read, e.2 a v.1]

theorem valid_ext {h h' : Heap α} (e : Ext h h') {s : Slice} (v : Valid h s) : Valid h' s := by
  cases s with
  | nil => trivial
  | mk a o l c =>
    refine ⟨Nat.lt_of_lt_of_le v.1 e.1, v.2.1, ?_⟩
    rw [e.2 a v.1]; exact v.2.2

theorem read_length {h : Heap α} {s : Slice} (v : Valid h s) : (read h s).length = s.len := by
  cases s with
  | nil => rfl
  | mk a o l c =>
    have := v.2.1
    have := v.2.2
    exact List.length_take_of_le (by rw [List.length_drop]; omega)

theorem getAt_some_of_lt {h : Heap α} {s : Slice} (v : Valid h s) {i : Nat} (hi : i < s.len) :
    ∃ e, getAt h s i = some e := by
  have : i < (read h s).length := by rw [read_length v]; exact hi
  exact ⟨(read h s)[i], List.getElem?_eq_getElem this⟩

theorem getAt_none_of_ge {h : Heap α} {s : Slice} (v : Valid h s) {i : Nat} (hi : s.len ≤ i) :
    getAt h s i = none := by
  simp [getAt, read_length v, hi]

theorem writeAt_length (arr : List α) (pos : Nat) (xs : List α) (hp : pos + xs.length ≤ arr.length) :
    (writeAt arr pos xs).length = arr.length := by
  rw [writeAt, List.length_append, List.length_append, List.length_take_of_le (by omega), List.length_drop]
  omega

theorem writeAt_take (arr : List α) (pos : Nat) (xs : List α) (hp : pos ≤ arr.length) :
    (writeAt arr pos xs).take pos = arr.take pos := by
  simp only [writeAt, List.append_assoc]
  rw [List.take_append_of_le_length (by simp; omega)]
  simp [List.take_take]

theorem writeAt_drop_take (arr : List α) (o l : Nat) (xs : List α) (hp : o + l + xs.length ≤ arr.length) :
    ((writeAt arr (o + l) xs).drop o).take (l + xs.length) = ((arr.drop o).take l) ++ xs := by
  have h1 : (arr.take o).length = o := List.length_take_of_le (by omega)
  have h2 : ((arr.drop o).take l ++ xs).length = l + xs.length := by
    rw [List.length_append, List.length_take_of_le (by rw [List.length_drop]; omega)]
  rw [writeAt, List.take_add (l := arr) (i := o), List.append_assoc, List.append_assoc, List.drop_left' h1,
    ← List.append_assoc, List.take_left' h2]

theorem writeCells_agree (n : Nat) (h : Heap α) (a pos : Nat) (xs : List α) (ha : xs ≠ [] → n ≤ a) :
    AgreeBelow n h (writeCells h a pos xs) := by
  unfold writeCells
  split
  · exact AgreeBelow.refl _ _
  · rename_i hx
    refine ⟨by simp, fun b hb => ?_⟩
    have : n ≤ a := ha (by intro h'; simp [h'] at hx)
    exact arrOf_set_ne _ _ (by omega)

theorem writeCells_length (h : Heap α) (a pos : Nat) (xs : List α) : (writeCells h a pos xs).length = h.length := by
  unfold writeCells; split <;> simp

theorem writeCells_arrOf (h : Heap α) (a pos : Nat) (xs : List α) (ha : a < h.length) :
    arrOf (writeCells h a pos xs) a = writeAt (arrOf h a) pos xs := by
  unfold writeCells
  split
  · rename_i hx; simp at hx; subst hx; simp [writeAt]
  · exact arrOf_set_eq _ _ ha

theorem writeCells_read {h : Heap α} {a o c : Nat} (l : Nat) (xs : List α) (ha : a < h.length)
    (hc : l + xs.length ≤ c) (hoc : o + c ≤ (arrOf h a).length) :
    Valid (writeCells h a (o + l) xs) (.mk a o (l + xs.length) c) ∧
    read (writeCells h a (o + l) xs) (.mk a o (l + xs.length) c) = ((arrOf h a).drop o).take l ++ xs := by
  constructor
  · refine ⟨by rw [writeCells_length]; exact ha, hc, ?_⟩
    rw [writeCells_arrOf _ _ _ _ ha, writeAt_length _ _ _ (by omega)]
    exact hoc
  · rw [read, writeCells_arrOf _ _ _ _ ha]
    exact writeAt_drop_take _ _ _ _ (by omega)

theorem subslice_spec {h : Heap α} {s : Slice} (v : Valid h s) {i j : Nat} (hij : i ≤ j) (hj : j ≤ s.len) :
    ∃ r, subslice s i j = .ok r ∧ Valid h r ∧ read h r = ((read h s).take j).drop i := by
  cases s with
  | nil =>
    obtain rfl : j = 0 := Nat.le_zero.mp hj
    obtain rfl : i = 0 := Nat.le_zero.mp hij
    exact ⟨.nil, rfl, trivial, rfl⟩
  | mk a o l c =>
    obtain ⟨ha, hlc, hoc⟩ := v
    have hj : j ≤ l := hj
    have hjc : j ≤ c := Nat.le_trans hj hlc
    refine ⟨.mk a (o + i) (j - i) (c - i), if_pos ⟨hij, hjc⟩, ⟨ha, Nat.sub_le_sub_right hjc i, ?_⟩, ?_⟩
    · rw [Nat.add_assoc, Nat.add_sub_cancel' (Nat.le_trans hij hjc)]
      exact hoc
    · rw [read, read, List.take_take, Nat.min_eq_left hj, List.drop_take, List.drop_drop]

/-- `s[:j:k]` -/
theorem slice3_spec {h : Heap α} {s : Slice} (v : Valid h s) {j k : Nat} (hjk : j ≤ k) (hj : j ≤ s.len)
    (hk : k ≤ s.cap) :
    ∃ r, slice3 s j k = .ok r ∧ Valid h r ∧ r.len = j ∧ r.cap = k ∧ read h r = (read h s).take j := by
  cases s with
  | nil =>
    obtain rfl : k = 0 := Nat.le_zero.mp hk
    obtain rfl : j = 0 := Nat.le_zero.mp hjk
    exact ⟨.nil, rfl, trivial, rfl, rfl, rfl⟩
  | mk a o l c =>
    obtain ⟨ha, hlc, hoc⟩ := v
    have hj : j ≤ l := hj
    have hk : k ≤ c := hk
    refine ⟨.mk a o j k, if_pos ⟨hjk, hk⟩, ⟨ha, hjk, Nat.le_trans (Nat.add_le_add_left hk o) hoc⟩, rfl, rfl, ?_⟩
    rw [read, read, List.take_take, Nat.min_eq_left hj]

section append
variable [Inhabited α]

theorem allocWith_spec (h : Heap α) (xs : List α) (cap : Nat) :
    Ext h (allocWith h xs cap).2 ∧ Valid (allocWith h xs cap).2 (allocWith h xs cap).1 ∧
    read (allocWith h xs cap).2 (allocWith h xs cap).1 = xs ∧ Fresh h.length (allocWith h xs cap).1 ∧
    (allocWith h xs cap).1.len = xs.length := by
  refine ⟨⟨by simp [allocWith], fun a ha => arrOf_append_left h _ ha⟩, ?_, ?_, Nat.le_refl _, rfl⟩
  · simp only [allocWith, Valid, arrOf_append_length]
    simp; omega
  · simp only [allocWith, read, arrOf_append_length]
    simp

theorem appendN_read (g : Growth) (h : Heap α) (s : Slice) (xs : List α) (v : Valid h s) :
    Valid (appendN g h s xs).2 (appendN g h s xs).1 ∧
    read (appendN g h s xs).2 (appendN g h s xs).1 = read h s ++ xs := by
  cases s with
  | nil =>
    simp only [appendN]
    split
    · rename_i hx; simp at hx; subst hx; exact ⟨trivial, rfl⟩
    · have := allocWith_spec h xs (g 0 xs.length)
      exact ⟨this.2.1, by simpa [read] using this.2.2.1⟩
  | mk a o l c =>
    simp only [appendN]
    split
    · exact writeCells_read l xs v.1 ‹_› v.2.2
    · have := allocWith_spec h (read h (.mk a o l c) ++ xs) (g c (l + xs.length))
      exact ⟨this.2.1, this.2.2.1⟩

theorem appendN_frame (g : Growth) (n : Nat) (h : Heap α) (s : Slice) (xs : List α)
    (hn : n ≤ h.length) (fr : Fresh n s) :
    AgreeBelow n h (appendN g h s xs).2 ∧ Fresh n (appendN g h s xs).1 := by
  cases s with
  | nil =>
    simp only [appendN]
    split
    · exact ⟨AgreeBelow.refl _ _, trivial⟩
    · have := allocWith_spec h xs (g 0 xs.length)
      exact ⟨this.1.mono hn, hn⟩
  | mk a o l c =>
    simp only [appendN]
    split
    · exact ⟨writeCells_agree n h a _ xs (fun _ => fr), fr⟩
    · have := allocWith_spec h (read h (.mk a o l c) ++ xs) (g c (l + xs.length))
      exact ⟨this.1.mono hn, hn⟩

theorem appendN_full (g : Growth) {h : Heap α} {s : Slice} (hfull : s.cap = s.len) (xs : List α) :
    Ext h (appendN g h s xs).2 ∧ (xs ≠ [] → Fresh h.length (appendN g h s xs).1) := by
  have alloc (ys : List α) (cap : Nat) :
      Ext h (allocWith h ys cap).2 ∧ (xs ≠ [] → Fresh h.length (allocWith h ys cap).1) :=
    have sp := allocWith_spec h ys cap
    ⟨sp.1, fun _ => sp.2.2.2.1⟩
  cases s with
  | nil =>
    rw [appendN]
    split
    · exact ⟨Ext.refl h, fun hx => absurd (List.isEmpty_iff.mp ‹_›) hx⟩
    · exact alloc _ _
  | mk a o l c =>
    obtain rfl : c = l := hfull
    rw [appendN]
    split
    · obtain rfl : xs = [] := List.eq_nil_of_length_eq_zero (by omega)
      exact ⟨Ext.refl h, fun hx => absurd rfl hx⟩
    · exact alloc _ _

end append

theorem drop_eq_cons {l : List α} {i : Nat} {x : α} {r : List α} (e : l.drop i = x :: r) :
    l[i]? = some x ∧ l.drop (i + 1) = r := by
  have hx := List.getElem?_drop (xs := l) (i := i) (j := 0)
  rw [e] at hx
  exact ⟨hx.symm, by rw [← List.drop_drop, e]; rfl⟩

/-- `P w st`: `st` is reached after the elements `w` that follow position `i` -/
theorem idxLoop_spec {τ : Type} (hp : τ → Heap α) (s : Slice) (body : Nat → α → τ → Except Panic τ)
    (l : List α) (i : Nat) (P : List α → τ → Prop)
    (hread : ∀ w st, P w st → read (hp st) s = l)
    (hbody : ∀ w e st, P w st → l[i + w.length]? = some e →
      ∃ st', body (i + w.length) e st = .ok st' ∧ P (w ++ [e]) st')
    (fuel : Nat) (st : τ) (h0 : P [] st) :
    ∃ st', P ((l.drop i).take fuel) st' ∧
      idxLoop hp s body fuel i st = if fuel ≤ (l.drop i).length then .ok st' else .error .index := by
  induction fuel generalizing i P st with
  | zero => exact ⟨st, h0, (if_pos (Nat.zero_le _)).symm⟩
  | succ k ih =>
    rw [idxLoop, getAt, hread [] st h0]
    cases hr : l.drop i with
    | nil =>
      rw [List.getElem?_eq_none (List.drop_eq_nil_iff.mp hr)]
      exact ⟨st, h0, (if_neg (Nat.not_succ_le_zero k)).symm⟩
    | cons x r =>
      obtain ⟨hx, hr'⟩ := drop_eq_cons hr
      obtain ⟨st1, hb, h1⟩ := hbody [] x st h0 hx
      obtain ⟨st', hP, e⟩ := ih (i + 1) (fun w => P (x :: w)) (fun w => hread _)
        (fun w e st hw he => by
          rw [Nat.add_right_comm, Nat.add_assoc] at he ⊢
          exact hbody (x :: w) e st hw he) st1 h1
      rw [hr'] at hP e
      refine ⟨st', hP, ?_⟩
      simp only [hx, show body i x st = .ok st1 from hb, List.length_cons, Nat.add_le_add_iff_right]
      exact e

/-- `for i, e := range s` -/
theorem rangeLoop_spec {τ : Type} (hp : τ → Heap α) (s : Slice) (body : Nat → α → τ → Except Panic τ)
    (l : List α) (hl : l.length = s.len) (P : List α → τ → Prop)
    (hread : ∀ w st, P w st → read (hp st) s = l)
    (hbody : ∀ w e st, P w st → l[w.length]? = some e →
      ∃ st', body w.length e st = .ok st' ∧ P (w ++ [e]) st')
    (st : τ) (h0 : P [] st) : ∃ st', P l st' ∧ rangeLoop hp s body st = .ok st' := by
  obtain ⟨st', hP, e⟩ := idxLoop_spec hp s body l 0 P hread
    (by simpa only [Nat.zero_add] using hbody) s.len st h0
  rw [← hl, List.drop_zero, List.take_length] at hP
  exact ⟨st', hP, e.trans (if_pos (Nat.le_of_eq hl.symm))⟩

end Folang.GoSlice
